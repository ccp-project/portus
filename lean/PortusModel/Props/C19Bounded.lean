import PortusModel.Props.C19
/-!
# C19 — a NONBLOCKING sender and a bounded receive queue

The kernel queue of a Unix datagram socket is bounded (`net.unix.max_dgram_qlen`). A blocking sender waits for room — the
unbounded model of `Conc/Transport.lean` describes what the receiver sees. A nonblocking sender (`Socket<Nonblocking>`) finds the
queue full and gets `WouldBlock`: `Ipc::send` answers `Err`, and the datagram is NOT queued. This file states what that means for
every schedule and every bound: **what is received, followed by what is queued, is exactly the sequence of datagrams whose send
answered Ok** — a send that could not queue its datagram has to say so, and a datagram whose send said so never arrives.
The correspondence check `XPT late` observes exactly this relation on the real sockets (64 sends at a receiver that drains later).
-/
namespace Portus.C19
open Portus Portus.Conc.Xpt

structure StB where
  queue : List Dgram := []
  trace : List Ev := []
  /-- the datagrams whose `send` answered `Ok` -/
  acked : List Dgram := []
  /-- the datagrams whose `send` answered `Err` (queue full) -/
  refused : List Dgram := []
deriving Repr, DecidableEq, Inhabited

/-- one operation against a receive queue that holds at most `cap` datagrams -/
def stepB (cap : Nat) (s : StB) : Op → StB
  | .send d =>
    if s.queue.length < cap then { s with queue := s.queue ++ [d], acked := s.acked ++ [d] }
    else { s with refused := s.refused ++ [d] }
  | .recv =>
    match s.queue with
    | [] => { s with trace := s.trace ++ [.empty] }
    | d :: q => { s with queue := q, trace := s.trace ++ [.got d] }

def runB (cap : Nat) (s : StB) (ops : List Op) : StB := ops.foldl (stepB cap) s

def drainB (s : StB) : StB := { s with queue := [], trace := s.trace ++ s.queue.map Ev.got }

theorem stepB_inv (cap : Nat) (s : StB) (o : Op) (h : delivered s.trace ++ s.queue = s.acked) :
    delivered (stepB cap s o).trace ++ (stepB cap s o).queue = (stepB cap s o).acked := by
  cases o with
  | send d =>
    by_cases hlt : s.queue.length < cap
    · simp [stepB, hlt, ← h, List.append_assoc]
    · simpa [stepB, hlt] using h
  | recv =>
    cases hq : s.queue with
    | nil =>
      rw [hq] at h
      simpa [stepB, hq, delivered_append, delivered] using h
    | cons d q => simp [stepB, hq, delivered_append, delivered, ← h, List.append_assoc]

/-- **received ++ queued = acked** -/
theorem bounded_fifo (cap : Nat) (ops : List Op) (s : StB) (h : delivered s.trace ++ s.queue = s.acked) :
    delivered (runB cap s ops).trace ++ (runB cap s ops).queue = (runB cap s ops).acked := by
  induction ops generalizing s with
  | nil => simpa [runB] using h
  | cons o r ih =>
    simp only [runB, List.foldl_cons]
    exact ih _ (stepB_inv cap s o h)

theorem drained_eq_acked (cap : Nat) (ops : List Op) :
    delivered (drainB (runB cap {} ops)).trace = (runB cap {} ops).acked := by
  simp only [drainB, delivered_append, delivered_map_got]
  exact bounded_fifo cap ops {} rfl

theorem stepB_counts (cap : Nat) (s : StB) (o : Op) :
    (stepB cap s o).acked.length + (stepB cap s o).refused.length = s.acked.length + s.refused.length + (sentOf [o]).length := by
  cases o with
  | send d => by_cases hlt : s.queue.length < cap <;> simp [stepB, hlt, sentOf] <;> omega
  | recv => cases hq : s.queue <;> simp [stepB, hq, sentOf]

/-- every send is answered: acknowledged or refused, never both, never neither -/
theorem every_send_answered (cap : Nat) (ops : List Op) (s : StB) :
    (runB cap s ops).acked.length + (runB cap s ops).refused.length = s.acked.length + s.refused.length + (sentOf ops).length := by
  induction ops generalizing s with
  | nil => simp [runB, sentOf]
  | cons o r ih =>
    simp only [runB, List.foldl_cons]
    have := ih (stepB cap s o)
    simp only [runB] at this
    rw [this, stepB_counts]
    cases o <;> simp [sentOf] <;> omega

theorem queue_bounded (cap : Nat) (ops : List Op) (s : StB) (h : s.queue.length ≤ cap) : (runB cap s ops).queue.length ≤ cap :=
  List.foldlRecOn (motive := fun s : StB => s.queue.length ≤ cap) ops _ h fun s h o _ => by
    cases o with
    | send d => by_cases hlt : s.queue.length < cap <;> simp [stepB, hlt] <;> omega
    | recv =>
      cases hq : s.queue with
      | nil => simp [stepB, hq]
      | cons d q =>
        rw [hq, List.length_cons] at h
        simp only [stepB, hq]
        omega

/-- with room for everything the bounded transport IS the unbounded one (nothing refused) -/
theorem no_refusal_with_room (cap : Nat) (ops : List Op) (s : StB) (h : s.queue.length + (sentOf ops).length ≤ cap)
    (hr : s.refused = []) : (runB cap s ops).refused = [] := by
  induction ops generalizing s with
  | nil => simpa [runB] using hr
  | cons o r ih =>
    simp only [runB, List.foldl_cons]
    cases o with
    | send d =>
      simp only [sentOf, List.length_cons] at h
      have hlt : s.queue.length < cap := by omega
      apply ih
      · simp only [stepB, if_pos hlt, List.length_append, List.length_cons, List.length_nil]; omega
      · simp only [stepB, if_pos hlt]; exact hr
    | recv =>
      simp only [sentOf] at h
      apply ih
      · cases hq : s.queue with
        | nil =>
          rw [hq] at h
          simpa [stepB, hq] using h
        | cons d q =>
          rw [hq, List.length_cons] at h
          simp only [stepB, hq]
          omega
      · cases hq : s.queue <;> simp [stepB, hq, hr]

-- a concrete, non-trivial run: bound 2, three sends (the third refused), a receive, a fourth send (accepted)
example :
    let d (k : Nat) : Dgram := ⟨0, k, [k]⟩
    let s := runB 2 {} [.send (d 0), .send (d 1), .send (d 2), .recv, .send (d 3)]
    s.acked = [d 0, d 1, d 3] ∧ s.refused = [d 2] ∧ delivered (drainB s).trace = [d 0, d 1, d 3] := by decide

end Portus.C19
