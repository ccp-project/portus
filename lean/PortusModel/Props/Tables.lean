import PortusModel.Generated.Tables
import PortusModel.Lang.Scope
import PortusModel.Lang.Serialize
import PortusModel.Wire.Ctl
import PortusModel.Wire.LibccpRead
import PortusModel.Vm.Machine
import PortusModel.Rt.Handle
/-!
# The closed tables, tied to the SOURCES on every run (DESIGN 11.7)

`Generated/Tables.lean` is rewritten by `tools/extract_tables.py` from `/repo/src` and from libccp 1.2.0's headers each time a
check that depends on it runs. The theorems below are therefore re-checked against what the code says now:

* **source = model** (`src_*`) — the operator spellings, the opcode numbering, the register class codes and index limits, the
  built-in names with their types and indices, the message type codes and the `get_hdr` length formulas that the hand-written
  model uses are the ones in the Rust source;
* **portus = libccp** (`*_shared_with_libccp`, `indices_fit_libccp`) — the numbering portus emits is the numbering libccp's
  headers define (the "opcode and register-class numbering shared with libccp" of C01, the "fixed indices libccp defines" of
  C13, the register files of C03, the struct layouts' constants of C04/C06/C07), and the constants of the libccp *model*
  (`Vm/*`, `Wire/LibccpRead`) are libccp's (`libccp_model_constants`).
-/
namespace Portus.Tables
open Portus Portus.Lang Portus.Wire Portus.Generated.Tables

/-- what holds of the table as generated holds of whatever list the translator recognised -/
theorem of_getD {α : Type} {o : Option (List α)} {P : List α → Prop} (h : P (o.getD [])) : ∀ l, o = some l → P l := by
  intro l hl
  subst hl
  exact h

/-- `ast::op`: same spellings, same operators, same order of alternatives as the model's `opTable` -/
theorem src_opTable_eq : srcOpTable.map (·.map fun p => (p.1.toList, p.2)) = some Lang.opTable := by
  decide +kernel

def allOps : List Op :=
  [.add, .and, .bind, .def, .div, .equiv, .ewma, .gt, .if, .lt, .max, .maxWrap, .min, .mul, .notIf, .or, .sub]

theorem allOps_complete (o : Op) : o ∈ allOps := by cases o <;> decide

def opcodeOut : Option Nat → Out Nat
  | some c => .ok c
  | none => .panic

/-- `serialize_op`: the source's match has one arm per operator and the model's `serializeOp` is that match -/
theorem src_opcodes_eq :
    srcOpcodes.map (·.map (·.1)) = some allOps ∧
    ∀ l, srcOpcodes = some l → ∀ p ∈ l, serializeOp p.1 = opcodeOut p.2 := by
  constructor
  · decide +kernel
  · exact of_getD (by decide +kernel)

/-- the model's register encoder written over a `RegEnc` table -/
def classIdxOf (e : RegEnc) : Reg → Out (Nat × Nat)
  | .control i _ vol => if i > e.ctlMax then .err else .ok (if vol then e.ctlVol else e.ctlNonvol, i)
  | .immBool b => .ok (e.immBool, if b then 1 else 0)
  | .immNum n => if n = 2^64 - 1 ∨ n < 2^e.immNumLog then .ok (e.immNum, n % 2^32) else .err
  | .implicit i _ => if i > e.implMax then .err else .ok (e.impl, i)
  | .local i _ => if i > e.locMax then .err else .ok (e.loc, i)
  | .primitive i _ => if i > e.primMax then .err else .ok (e.prim, i)
  | .report i _ vol => if i > e.repMax then .err else .ok (if vol then e.repVol else e.repNonvol, i)
  | .tmp i _ => if i > e.tmpMax then .err else .ok (e.tmp, i)
  | .none => if e.noneUnreachable then unreachableP else .err

/-- `impl IntoIterator for Reg`: the model's `Reg.classIdx` is the encoder over the table read from the source -/
theorem src_regEnc_eq (r : Reg) : r.classIdx = classIdxOf srcRegEnc r := by
  cases r <;> rfl

theorem src_reg_layout : srcRegEnc.layout5 = true := by decide

/-- `Scope::new`: the built-in names, their types and (list position = index) are the model's -/
theorem src_builtins_eq :
    srcPrimitives = some primitiveNames ∧ srcImplicits = some implicitNames ∧ srcBuiltinsIndexedFrom0 = true := by
  decide +kernel

theorem src_msgTypes_eq :
    srcMsgTypes = [("CHANGEPROG", CHANGEPROG), ("CREATE", CREATE), ("INSTALL", INSTALL), ("MEASURE", MEASURE),
                   ("READY", READY), ("UPDATE_FIELD", UPDATE_FIELD)] ∧ srcHdrLength = 8 := by
  decide +kernel

/-- the `get_hdr` length formulas the model's encoders use are the source's -/
theorem src_lengths_eq :
    (∀ m, serializeCreate m = serializeWith CREATE (srcCreateLen srcHdrLength) m.sid (do
        let nb ← createNameBlock m.alg
        pure (le32 m.cwnd ++ le32 m.mss ++ le32 m.srcIp ++ le32 m.srcPort ++ le32 m.dstIp ++ le32 m.dstPort ++ nb))) ∧
    (∀ m, serializeMeasure m = serializeWith MEASURE (srcMeasureLen srcHdrLength m.numFields) m.sid
        (pure (le32 m.uid ++ le32 m.numFields ++ m.fields.flatMap le64))) ∧
    (∀ id, serializeReady id = serializeWith READY (srcReadyLen srcHdrLength) 0 (pure (le32 id))) ∧
    (∀ m, serializeInstall m = u32LenP (srcInstallLen srcHdrLength m.numEvents m.numInstrs)
        (serializeWith INSTALL (srcInstallLen srcHdrLength m.numEvents m.numInstrs) m.sid (do
          let b ← m.bin.serialize
          pure (le32 m.uid ++ le32 m.numEvents ++ le32 m.numInstrs ++ b)))) ∧
    (∀ m, serializeChangeProg m = u32LenP (srcChangeprogLen srcHdrLength m.numFields)
        (serializeWith CHANGEPROG (srcChangeprogLen srcHdrLength m.numFields) m.sid (do
          let b ← serializeUpdates m.fields
          pure (le32 m.uid ++ le32 m.numFields ++ b)))) ∧
    (∀ m, serializeUpdateField m = serializeWith UPDATE_FIELD (srcUpdateFieldLen srcHdrLength m.numFields) m.sid (do
          let b ← serializeUpdates m.fields
          pure (le32 m.numFields ++ b))) :=
  ⟨fun _ => rfl, fun _ => rfl, fun _ => rfl, fun _ => rfl, fun _ => rfl, fun _ => rfl⟩

open Portus.Rt in
/-- the model's resolution closure (`src/lib.rs`) written over an `UpdFilter` -/
def resolveFieldOf (u : UpdFilter) (sc : Scope) (f : Name × Nat) : Out (Reg × Nat) :=
  if u.reservedPrefix.toList.isPrefixOf f.1 then .err
  else match sc.get f.1 with
    | none => .err
    | some (.control i t v) => .ok (.control i t v, f.2)
    | some (.implicit i t) => if u.implicitOk.contains i then .ok (.implicit i t, f.2) else .err
    | some _ => .err

theorem src_updFilter_eq :
    srcUpdFilter = { recognised := true, sameInBoth := true, reservedPrefix := "__", implicitOk := [4, 5] } := by
  decide +kernel

/-- `Datapath::set_program` / `update_field`: the model's `resolveField` is the closure over the filter read from the source -/
theorem src_resolveField_eq (sc : Scope) (f : Name × Nat) : Rt.resolveField sc f = resolveFieldOf srcUpdFilter sc f := by
  rw [src_updFilter_eq]
  unfold Rt.resolveField resolveFieldOf
  by_cases hp : "__".toList.isPrefixOf f.1 = true
  · simp only [hp, if_true]
  · simp only [hp]
    cases hg : sc.get f.1 with
    | none => rfl
    | some r =>
      cases r with
      | implicit i t =>
        by_cases h4 : i = 4
        · subst h4; rfl
        · by_cases h5 : i = 5
          · subst h5; rfl
          · simp [h4, h5]
      | _ => rfl

/-- Rust error type of each refusal of `Report::get_field` ↦ the model's error kind -/
def gfErr : String → Option Rt.GetErr
  | "StaleProgramError" => some .stale
  | "FieldNotFoundError" => some .notFound
  | "InvalidRegTypeError" => some .invalidType
  | "InvalidReportError" => some .invalidReport
  | _ => none

/-- `Report::get_field` written over the table read from the source (`none` = an error type the model does not know) -/
def getFieldOf (g : GfTable) (reportUid : Nat) (fields : List Nat) (field : Name) (sc : Scope) : Option (Except Rt.GetErr Nat) :=
  if !g.recognised then none
  else if sc.uid ≠ reportUid then (gfErr g.staleErr).map .error
  else match sc.get field with
    | none => (gfErr g.notFoundErr).map .error
    | some (.report idx _ _) =>
      if (if g.boundIsGe then idx ≥ fields.length else idx > fields.length) then (gfErr g.shortErr).map .error
      else some (.ok (fields.getD idx 0))
    | some _ => (gfErr g.wrongClassErr).map .error

theorem src_getFieldTable_eq :
    srcGetField = { recognised := true, staleErr := "StaleProgramError", boundIsGe := true, shortErr := "InvalidReportError",
                    wrongClassErr := "InvalidRegTypeError", notFoundErr := "FieldNotFoundError" } := by
  decide +kernel

/-- `Report::get_field`: the model's `getField` is the decision sequence read from the source, with the source's error type at
each refusal -/
theorem src_getField_eq (uid : Nat) (fields : List Nat) (f : Name) (sc : Scope) :
    getFieldOf srcGetField uid fields f sc = some (Rt.getField uid fields f sc) := by
  rw [src_getFieldTable_eq]
  unfold getFieldOf Rt.getField
  simp only [Bool.not_true, Bool.false_eq_true, if_false, if_true]
  by_cases hu : sc.uid ≠ uid
  · simp [hu, gfErr]
  · simp only [hu, if_false]
    cases hg : sc.get f with
    | none => simp [gfErr]
    | some r =>
      cases r with
      | report idx ty vol =>
        by_cases hi : idx ≥ fields.length
        · simp [hi, gfErr]
        · have hlt : idx < fields.length := by omega
          have h1 : fields[idx]? = some fields[idx] := List.getElem?_eq_getElem hlt
          simp [hi, h1, List.getD]
      | _ => simp [gfErr]

def lookupC (k : String) (l : List (String × Nat)) : Option Nat := (l.find? (·.1 == k)).map (·.2)

/-- `a ≤` the looked-up constant (false when the constant is missing) -/
def leC (a : Nat) : Option Nat → Bool
  | some b => a ≤ b
  | none => false

/-- libccp's macro name of each operator portus can emit -/
def opCName : Op → Option String
  | .add => some "ADD" | .bind => some "BIND" | .def => some "DEF" | .div => some "DIV" | .equiv => some "EQUIV"
  | .ewma => some "EWMA" | .gt => some "GT" | .if => some "IF" | .lt => some "LT" | .max => some "MAX"
  | .maxWrap => some "MAXWRAP" | .min => some "MIN" | .mul => some "MUL" | .notIf => some "NOTIF" | .sub => some "SUB"
  | .and => none | .or => none

/-- one row of `serialize_op` against libccp's macros: an operator libccp has an instruction for carries exactly that
macro's value, below `MAX_OP`; an operator without one (`&&`, `||`) has no opcode -/
def opRowOk (p : Op × Option Nat) : Bool :=
  match opCName p.1 with
  | some nm => p.2.isSome && (lookupC nm ccpOpcodes == p.2) && leC (p.2.getD 0 + 1) (lookupC "MAX_OP" ccpOpcodes)
  | none => p.2.isNone

theorem opcodes_shared_with_libccp : ∀ l, srcOpcodes = some l → ∀ p ∈ l, opRowOk p = true := by
  exact of_getD (by decide +kernel)

theorem regclasses_shared_with_libccp :
    lookupC "NONVOLATILE_CONTROL_REG" ccpRegClasses = some srcRegEnc.ctlNonvol ∧
    lookupC "VOLATILE_CONTROL_REG" ccpRegClasses = some srcRegEnc.ctlVol ∧
    lookupC "IMMEDIATE_REG" ccpRegClasses = some srcRegEnc.immBool ∧
    lookupC "IMMEDIATE_REG" ccpRegClasses = some srcRegEnc.immNum ∧
    lookupC "IMPLICIT_REG" ccpRegClasses = some srcRegEnc.impl ∧
    lookupC "LOCAL_REG" ccpRegClasses = some srcRegEnc.loc ∧
    lookupC "PRIMITIVE_REG" ccpRegClasses = some srcRegEnc.prim ∧
    lookupC "VOLATILE_REPORT_REG" ccpRegClasses = some srcRegEnc.repVol ∧
    lookupC "NONVOLATILE_REPORT_REG" ccpRegClasses = some srcRegEnc.repNonvol ∧
    lookupC "TMP_REG" ccpRegClasses = some srcRegEnc.tmp := by
  decide +kernel

/-- every index the encoder accepts lies inside libccp's register file of that class (and the primitive indices inside
the 15 primitives libccp defines) -/
theorem indices_fit_libccp :
    leC (srcRegEnc.tmpMax + 1) (lookupC "MAX_TMP_REG" ccpLimits) = true ∧
    leC (srcRegEnc.locMax + 1) (lookupC "MAX_LOCAL_REG" ccpLimits) = true ∧
    leC (srcRegEnc.repMax + 1) (lookupC "MAX_REPORT_REG" ccpLimits) = true ∧
    leC (srcRegEnc.ctlMax + 1) (lookupC "MAX_CONTROL_REG" ccpLimits) = true ∧
    leC (srcRegEnc.implMax + 1) (lookupC "MAX_IMPLICIT_REG" ccpLimits) = true ∧
    srcRegEnc.implMax + 1 = ccpImplicit.length := by
  decide +kernel

/-- `Ack.bytes_acked` ↦ `ACK_BYTES_ACKED` -/
def cName (s : String) : String := String.ofList (s.toList.map fun c => if c = '.' then '_' else c.toUpper)

def indexed {α : Type} : List α → Nat → List (Nat × α)
  | [], _ => []
  | a :: r, i => (i, a) :: indexed r (i + 1)

/-- the k-th measurement primitive of `Scope::new` is the primitive libccp numbers k, and they are all of libccp's -/
theorem primitives_shared_with_libccp :
    ∀ l, srcPrimitives = some l →
      (∀ p ∈ indexed l 0, lookupC (cName p.2.1) ccpPrims = some p.1) ∧ l.length = ccpPrims.length := by
  exact of_getD (by decide +kernel)

/-- libccp's macro name of each implicit register -/
def implCName : List (String × String) :=
  [("__eventFlag", "EXPR_FLAG_REG"), ("__shouldContinue", "SHOULD_FALLTHROUGH_REG"), ("__shouldReport", "SHOULD_REPORT_REG"),
   ("Micros", "US_ELAPSED_REG"), ("Cwnd", "CWND_REG"), ("Rate", "RATE_REG")]

theorem implicits_shared_with_libccp :
    ∀ l, srcImplicits = some l →
      (∀ p ∈ indexed l 0, ((implCName.find? (·.1 == p.2.1)).bind fun q => lookupC q.2 ccpImplicit) = some p.1) ∧
      l.length = ccpImplicit.length := by
  exact of_getD (by decide +kernel)

theorem msgtypes_shared_with_libccp :
    lookupC "CREATE" srcMsgTypes = lookupC "CREATE" ccpMsgTypes ∧
    lookupC "MEASURE" srcMsgTypes = lookupC "MEASURE" ccpMsgTypes ∧
    lookupC "INSTALL" srcMsgTypes = lookupC "INSTALL_EXPR" ccpMsgTypes ∧
    lookupC "UPDATE_FIELD" srcMsgTypes = lookupC "UPDATE_FIELDS" ccpMsgTypes ∧
    lookupC "CHANGEPROG" srcMsgTypes = lookupC "CHANGE_PROG" ccpMsgTypes ∧
    lookupC "READY" srcMsgTypes = lookupC "READY" ccpMsgTypes ∧
    (lookupC "CREATE" ccpMsgTypes).isSome ∧ (lookupC "READY" ccpMsgTypes).isSome ∧
    some (srcCreateLen srcHdrLength) = lookupC "CREATE_MSG_SIZE" ccpLimits ∧
    some (srcReadyLen srcHdrLength) = lookupC "READY_MSG_SIZE" ccpLimits ∧
    lookupC "MAX_CONG_ALG_SIZE" ccpLimits = some 64 := by
  decide +kernel

theorem libccp_model_constants :
    lookupC "BIGGEST_MSG_SIZE" ccpLimits = some Libccp.BIGGEST_MSG_SIZE ∧
    lookupC "MAX_MUTABLE_REG" ccpLimits = some Libccp.MAX_MUTABLE_REG ∧
    lookupC "MAX_REPORT_REG" ccpLimits = some Vm.Regs.zero.report.length ∧
    lookupC "MAX_CONTROL_REG" ccpLimits = some Vm.Regs.zero.control.length ∧
    lookupC "MAX_IMPLICIT_REG" ccpLimits = some Vm.Regs.zero.impl.length ∧
    lookupC "MAX_TMP_REG" ccpLimits = some Vm.Regs.zero.tmp.length ∧
    lookupC "MAX_LOCAL_REG" ccpLimits = some Vm.Regs.zero.loc.length := by
  decide +kernel

end Portus.Tables
