import PortusModel.Props.C02
import PortusModel.Props.C08
import PortusModel.Props.C04
/-!
# C16 — no message history or transport failure can crash the runtime

`runLoop` composes the receive path (`Ipc.next`: arbitrary datagram bytes, failed receives, stop
requests), the decoder and the dispatch step, with transport send failures injected at arbitrary points
(`Rx.sf k`: the next `k` sends fail). User callbacks are arbitrary bounded policies.
-/
namespace Portus.C16
open Portus Portus.Wire Portus.Ipc Portus.Rt

theorem loopStep_ok {σ : Type} (cfg : Cfg) (pol : Policy σ) (hb : pol.Bounded) (b : Backend) (hinv : Inv b)
    (rx : List Rx) (st : St σ) :
    ∃ r, loopStep cfg pol b rx st = .ok r ∧
      ∀ b' rx' st' evs, r = .more b' rx' st' evs → Inv b' ∧ Ipc.measure b' rx' < Ipc.measure b rx := by
  obtain ⟨o, b', rx', hn, hs⟩ := next_spec b hinv rx
  unfold loopStep
  rw [hn]
  cases o with
  | none => exact ⟨_, rfl, fun _ _ _ _ h => by cases h⟩
  | some p =>
    obtain ⟨msg, addr⟩ := p
    obtain ⟨r, hr, _⟩ := step_ok cfg pol hb (applySf st (rx.take (rx.length - rx'.length))) addr msg
    simp only [hr]
    cases r with
    | cont st' evs => exact ⟨_, rfl, fun _ _ _ _ h => by cases h; exact ⟨hs.1, hs.2.2.1⟩⟩
    | fail st' evs => exact ⟨_, rfl, fun _ _ _ _ h => by cases h⟩

/-- **The runtime never panics.** For every script of datagrams of arbitrary bytes from any senders,
failed receives, stop requests and injected send failures, from every receive-path state satisfying the
cursor invariant, every configuration and every bounded user policy, the composed loop returns a trace
and `Ok` or `Err` — never a panic (and never gets stuck: the fuel `Ipc.measure b rx + 1` always suffices). -/
theorem run_no_panic {σ : Type} (cfg : Cfg) (pol : Policy σ) (hb : pol.Bounded) (fuel : Nat) (b : Backend)
    (hinv : Inv b) (rx : List Rx) (st : St σ) (acc : List Ev) :
    ∃ t r, runLoop cfg pol fuel b rx st acc = .ok (t, r) := by
  induction fuel generalizing b rx st acc with
  | zero => exact ⟨_, _, rfl⟩
  | succ k ih =>
    simp only [runLoop]
    obtain ⟨r, hr, hmore⟩ := loopStep_ok cfg pol hb b hinv rx st
    rw [hr]
    cases r with
    | finished res st' evs => exact ⟨_, _, rfl⟩
    | more b' rx' st' evs =>
      obtain ⟨hinv', _⟩ := hmore b' rx' st' evs rfl
      exact ih b' hinv' rx' st' (acc ++ evs)

theorem run_bytes_no_panic {σ : Type} (cfg : Cfg) (pol : Policy σ) (hb : pol.Bounded) (buf0 : Bytes)
    (h : buf0.length = 1024) (rx : List Rx) : ∃ t r, run cfg pol buf0 rx = .ok (t, r) :=
  run_no_panic cfg pol hb _ (Backend.new buf0) (.new h) rx _ _

/-- **Ignored messages have no effect.** A message of unknown type — which by C04 includes every
undecodable header and the CCP→datapath types install/update/change-program — and a measurement for an
unknown datapath or flow leave the state exactly as it was and emit nothing, so every later well-formed
message is dispatched exactly as if the ignored one had never arrived. -/
theorem ignored_is_identity {σ : Type} (cfg : Cfg) (pol : Policy σ) (st : St σ) (addr : Addr) :
    (∀ r, step cfg pol st addr (.other r) = .ok (.cont st [])) ∧
    (∀ m, cur st addr m.sid = none → step cfg pol st addr (.ms m) = .ok (.cont st [])) :=
  ⟨fun r => C02.other_ignored cfg pol st addr r, fun m h => C02.measure_unknown_ignored cfg pol st addr m h⟩

/-- what C04 adds: bytes whose type code is not create/measure/ready never decode to a typed message -/
theorem untyped_bytes_are_other (buf : Bytes) (m : Msg) (n : Nat) (h : fromBuf buf = .ok (m, n))
    (ht : C04.typeCode buf ≠ 0 ∧ C04.typeCode buf ≠ 1 ∧ C04.typeCode buf ≠ 5) : ∃ r, m = .other r := by
  cases m with
  | cr c => exact absurd (C04.create_only_when_create buf c n h).1 ht.1
  | ms m => exact absurd (C04.measure_only_when_measure buf m n h).1 ht.2.1
  | rdy id => exact absurd (C04.ready_only_when_ready buf id n h).1 ht.2.2
  | other r => exact ⟨r, rfl⟩

end Portus.C16
