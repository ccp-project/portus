import PortusModel.Lemmas.Rt
/-! One step of the dispatch loop (C02, C05, C09, C16): `Stepped`, the step as a relation in which user code appears
only through what every bounded policy guarantees. What the properties say about one step is a case analysis of
`Stepped`; `step` itself is unfolded in `step_stepped` only. -/
namespace Portus.Rt
open Portus Portus.Lang Portus.Wire Portus.Ipc

/-- callbacks into user code, as opposed to transport events and log lines -/
def isCallback : Ev → Bool
  | .newFlow .. => true
  | .report .. => true
  | .closed .. => true
  | .dropped .. => true
  | _ => false

/-- both key levels are duplicate-free: the two association lists are maps -/
structure WfSt {σ : Type} (st : St σ) : Prop where
  addrs : (st.flows.map (·.1)).Nodup
  sids : ∀ p ∈ st.flows, (p.2.map (·.1)).Nodup

theorem WfSt.init {σ : Type} : WfSt (St.init : St σ) := ⟨List.nodup_nil, nofun⟩

theorem UserEvs.not_callback {cfg : Cfg} {addr sid flow : Nat} {evs : List Ev} (h : UserEvs cfg addr sid flow evs) :
    evs.filter isCallback = [] := by
  rw [List.filter_eq_nil_iff]
  intro e he
  rcases (h e he).1 with rfl | ⟨b, rfl, _⟩ | ⟨m, rfl⟩ <;> simp [isCallback]

theorem filter_callback_dropAll_eq_self {σ : Type} (fm : List (Nat × Flow σ)) : (dropAll fm).filter isCallback = dropAll fm :=
  List.filter_eq_self.mpr (List.forall_mem_map.mpr fun _ _ => rfl)

theorem filter_callback_batch_eq_nil (cfg : Cfg) (addr : Addr) :
    (cfg.progs.map fun p => Ev.tx addr p.install).filter isCallback = [] :=
  List.filter_eq_nil_iff.mpr (List.forall_mem_map.mpr fun _ _ => nofun)

/-- the batch in closed form: with a failure pending the first send fails and ends it -/
theorem sendInstalls_eq (to : Addr) (progs : List ProgInfo) (sf : Nat) (acc : List Ev) :
    sendInstalls to progs sf acc =
      if sf = 0 ∨ progs = [] then (true, sf, acc ++ progs.map fun p => Ev.tx to p.install)
      else (false, sf - 1, acc ++ [.txFail to]) := by
  induction progs generalizing acc with
  | nil => simp [sendInstalls]
  | cons p rest ih =>
    rcases sendTo_cases to p.install sf with ⟨h, hsf⟩ | ⟨h, hsf⟩
    · simp [sendInstalls, h, Nat.ne_of_gt hsf]
    · subst hsf
      simp [sendInstalls, h, ih]

theorem WfSt.set {σ : Type} {st : St σ} (h : WfSt st) (a : Addr) (fm : List (Nat × Flow σ))
    (hfm : (fm.map (·.1)).Nodup) (nf sf : Nat) :
    WfSt { flows := setAddr st.flows a fm, nextFlow := nf, sendFail := sf } := by
  constructor
  · exact Assoc.nodup_cons_filter_ne st.flows a fm h.addrs
  · intro p hp
    simp only [setAddr, List.mem_cons] at hp
    rcases hp with rfl | hp
    · exact hfm
    · exact h.sids p (List.mem_filter.mp hp).1

theorem WfSt.applySf {σ : Type} {st : St σ} (passed : List Rx) (h : WfSt st) : WfSt (applySf st passed) := by
  obtain ⟨k, e⟩ := applySf_eq st passed
  rw [e]
  exact ⟨h.addrs, h.sids⟩

theorem WfSt.fm {σ : Type} {st : St σ} (h : WfSt st) (a : Addr) : ((st.fm a).map (·.1)).Nodup := by
  unfold St.fm
  cases hl : st.flows.lookup a with
  | none => simp
  | some fm => exact h.sids (a, fm) (Assoc.mem_of_lookup hl)

theorem WfSt.consFm {σ : Type} {st : St σ} (h : WfSt st) (a : Addr) (k : Nat) (f : Flow σ) (nf sf : Nat) :
    WfSt { flows := setAddr st.flows a ((k, f) :: (st.fm a).filter fun p => p.1 ≠ k), nextFlow := nf, sendFail := sf } :=
  h.set a _ (Assoc.nodup_cons_filter_ne _ k f (h.fm a)) nf sf

theorem dropAll_filter_eq {σ : Type} (fm : List (Nat × Flow σ)) (hnd : (fm.map (·.1)).Nodup) (k : Nat) :
    dropAll (fm.filter fun p => p.1 = k) =
      match (fm.lookup k).map (·.no) with | some n => [Ev.dropped n] | none => [] := by
  rw [Assoc.filter_key_eq fm k hnd]
  cases fm.lookup k <;> simp [dropAll]

theorem curNo_setAddr {σ : Type} (st : St σ) (a : Addr) (fm : List (Nat × Flow σ)) (nf sf : Nat) (b : Addr) (s : Nat) :
    curNo { flows := setAddr st.flows a fm, nextFlow := nf, sendFail := sf } b s =
      if b = a then (fm.lookup s).map (·.no) else curNo st b s := by
  unfold curNo cur
  simp only [lookup_setAddr]
  by_cases hb : b = a <;> simp [hb]

theorem curNo_setAddr_ne {σ : Type} (st : St σ) (a : Addr) (k : Nat) (fm : List (Nat × Flow σ)) (nf sf : Nat)
    (hfm : ∀ s, s ≠ k → fm.lookup s = (st.fm a).lookup s) {b : Addr} {s : Nat} (hne : (b, s) ≠ (a, k)) :
    curNo { flows := setAddr st.flows a fm, nextFlow := nf, sendFail := sf } b s = curNo st b s := by
  rw [curNo_setAddr]
  split
  · next hb =>
    subst hb
    rw [hfm s fun e => hne (by rw [e]), curNo_eq]
  · rfl

/-- the flow id a message speaks about (`0` for a ready or an ignored kind: these reach no user code, so the
user-code case of `StepEv` never speaks of it) -/
def msgSid : Msg → Nat
  | .cr c => c.sid
  | .ms m => m.sid
  | _ => 0

def StepRes.evs {σ : Type} : StepRes σ → List Ev
  | .cont _ e => e
  | .fail _ e => e

def StepRes.st {σ : Type} : StepRes σ → St σ
  | .cont s _ => s
  | .fail s _ => s

variable {σ : Type}

theorem stepMs_unknown (cfg : Cfg) (pol : Policy σ) (st : St σ) (addr : Addr) (m : Measure)
    (h : cur st addr m.sid = none) : stepMs cfg pol st addr m = .ok (.cont st []) := by
  unfold stepMs
  unfold cur at h
  cases hl : st.flows.lookup addr with
  | none => rfl
  | some fm =>
    simp only [hl, Option.bind_some] at h
    simp only [h]

/-- **One dispatch step, as a relation.** `Stepped cfg st addr msg r`: handling `msg` from `addr` in state `st` may end
in `r`. User code is abstracted to what `runUser_spec` guarantees of every bounded policy. -/
inductive Stepped (cfg : Cfg) (st : St σ) (addr : Addr) : Msg → StepRes σ → Prop
  | other (r : Raw) : Stepped cfg st addr (.other r) (.cont st [])
  | unknown (m : Measure) (h : cur st addr m.sid = none) : Stepped cfg st addr (.ms m) (.cont st [])
  | report (m : Measure) (f : Flow σ) (u : σ) (sf : Nat) (uevs : List Ev) (hf : cur st addr m.sid = some f)
      (hn : m.numFields ≠ 0) (hsf : sf ≤ st.sendFail) (hu : UserEvs cfg addr m.sid f.no uevs) :
      Stepped cfg st addr (.ms m)
        (.cont { st with flows := setAddr st.flows addr
                           ((m.sid, { f with user := u }) :: (st.fm addr).filter fun p => p.1 ≠ m.sid),
                         sendFail := sf }
          (.report f.no m.sid m.uid m.fields :: uevs))
  | close (m : Measure) (f : Flow σ) (sf : Nat) (uevs : List Ev) (hf : cur st addr m.sid = some f)
      (hn : m.numFields = 0) (hsf : sf ≤ st.sendFail) (hu : UserEvs cfg addr m.sid f.no uevs) :
      Stepped cfg st addr (.ms m)
        (.cont { st with flows := setAddr st.flows addr ((st.fm addr).filter fun p => p.1 ≠ m.sid), sendFail := sf }
          (.closed f.no :: uevs ++ [.dropped f.no]))
  | rdy (id : Nat) (h : st.sendFail = 0 ∨ cfg.progs = []) :
      Stepped cfg st addr (.rdy id)
        (.cont { st with flows := setAddr st.flows addr [] }
          (dropAll (st.fm addr) ++ cfg.progs.map fun p => Ev.tx addr p.install))
  | rdyFail (id : Nat) (h : ¬ (st.sendFail = 0 ∨ cfg.progs = [])) :
      Stepped cfg st addr (.rdy id)
        (.fail { st with flows := setAddr st.flows addr [], sendFail := st.sendFail - 1 }
          (dropAll (st.fm addr) ++ [.txFail addr]))
  | crFail (c : Create) (hun : st.flows.lookup addr = none) (h : ¬ (st.sendFail = 0 ∨ cfg.progs = [])) :
      Stepped cfg st addr (.cr c)
        (.fail { st with flows := setAddr st.flows addr [], sendFail := st.sendFail - 1 } [.txFail addr])
  | create (c : Create) (u : σ) (sf : Nat) (uevs : List Ev)
      (h : (st.flows.lookup addr).isSome = true ∨ st.sendFail = 0 ∨ cfg.progs = []) (hsf : sf ≤ st.sendFail)
      (hu : UserEvs cfg addr c.sid st.nextFlow uevs) :
      Stepped cfg st addr (.cr c)
        (.cont { flows := setAddr st.flows addr
                   ((c.sid, { no := st.nextFlow, user := u }) :: (st.fm addr).filter fun p => p.1 ≠ c.sid),
                 nextFlow := st.nextFlow + 1, sendFail := sf }
          ((if (st.flows.lookup addr).isSome then [] else cfg.progs.map fun p => Ev.tx addr p.install) ++
            dropAll ((st.fm addr).filter fun p => p.1 = c.sid) ++
            .newFlow st.nextFlow (cfg.pick (c.alg.getD [])) ⟨c.sid, c.cwnd, c.mss, c.srcIp, c.srcPort, c.dstIp, c.dstPort⟩
              c.sid :: uevs))

/-- a ready does not run user code -/
theorem stepped_rdy (cfg : Cfg) (st : St σ) (addr : Addr) (id : Nat) : Stepped cfg st addr (.rdy id) (stepRdy cfg st addr) := by
  unfold stepRdy
  simp only [sendInstalls_eq]
  by_cases h : st.sendFail = 0 ∨ cfg.progs = []
  · simp only [h, if_true]
    exact .rdy id h
  · simp only [h, if_false]
    exact .rdyFail id h

/-- **Every step of a bounded policy is a `Stepped` step** (in particular: never a panic, never a model error). -/
theorem step_stepped (cfg : Cfg) (pol : Policy σ) (hb : pol.Bounded) (st : St σ) (addr : Addr) (msg : Msg) :
    ∃ r, step cfg pol st addr msg = .ok r ∧ Stepped cfg st addr msg r := by
  cases msg with
  | other r => exact ⟨_, rfl, .other r⟩
  | rdy id => exact ⟨_, rfl, stepped_rdy cfg st addr id⟩
  | ms m =>
    show ∃ r, stepMs cfg pol st addr m = .ok r ∧ _
    cases hc : cur st addr m.sid with
    | none =>
      exact ⟨.cont st [], stepMs_unknown cfg pol st addr m hc, .unknown m hc⟩
    | some f =>
      have hl := fm_of_cur hc
      have hf : (st.fm addr).lookup m.sid = some f := by rw [← cur_eq]; exact hc
      unfold stepMs
      simp only [hl, hf]
      by_cases hn : m.numFields = 0
      · obtain ⟨u, sf', evs, hr, hle, hu⟩ := runUser_spec cfg addr m.sid f.no (pol.onClose f.user) (hb.onClose _)
          st.sendFail [.closed f.no]
        simp only [hn, if_true, hr]
        exact ⟨_, rfl, .close m f sf' evs hc hn hle hu⟩
      · obtain ⟨u, sf', evs, hr, hle, hu⟩ := runUser_spec cfg addr m.sid f.no (pol.onReport f.user m.sid m.uid m.fields)
          (hb.onReport _ _ _ _) st.sendFail [.report f.no m.sid m.uid m.fields]
        simp only [hn, if_false, hr]
        exact ⟨_, rfl, .report m f u sf' evs hc hn hle hu⟩
  | cr c =>
    show ∃ r, stepCr cfg pol st addr c = .ok r ∧ _
    unfold stepCr
    simp only [sendInstalls_eq, List.nil_append]
    by_cases h : (st.flows.lookup addr).isSome = true ∨ st.sendFail = 0 ∨ cfg.progs = []
    · -- the installs in one shape for both ways into this case: none for a registered address, else the whole batch
      have hpre : (if (st.flows.lookup addr).isSome = true then ((true, st.sendFail, []) : Bool × Nat × List Ev)
          else if st.sendFail = 0 ∨ cfg.progs = [] then (true, st.sendFail, cfg.progs.map fun p => Ev.tx addr p.install)
          else (false, st.sendFail - 1, [.txFail addr])) =
          (true, st.sendFail, if (st.flows.lookup addr).isSome then [] else cfg.progs.map fun p => Ev.tx addr p.install) := by
        by_cases hk : (st.flows.lookup addr).isSome = true
        · simp [hk]
        · have := h.resolve_left hk
          simp [hk, this]
      rw [hpre]
      obtain ⟨u, sf', evs, hr, hle, hu⟩ := runUser_spec cfg addr c.sid st.nextFlow
        (pol.newFlow (cfg.pick (c.alg.getD [])) st.nextFlow ⟨c.sid, c.cwnd, c.mss, c.srcIp, c.srcPort, c.dstIp, c.dstPort⟩)
        (hb.newFlow _ _ _) st.sendFail
        ((if (st.flows.lookup addr).isSome then [] else cfg.progs.map fun p => Ev.tx addr p.install) ++
          dropAll ((st.fm addr).filter fun p => p.1 = c.sid) ++
          [.newFlow st.nextFlow (cfg.pick (c.alg.getD [])) ⟨c.sid, c.cwnd, c.mss, c.srcIp, c.srcPort, c.dstIp, c.dstPort⟩ c.sid])
      simp only [Bool.not_true, Bool.false_eq_true, if_false, hr]
      refine ⟨_, rfl, ?_⟩
      have := Stepped.create (cfg := cfg) (st := st) (addr := addr) c u sf' evs h hle hu
      simpa [List.append_assoc] using this
    · have hun : st.flows.lookup addr = none := Option.not_isSome_iff_eq_none.mp fun hk => h (Or.inl hk)
      have h2 : ¬ (st.sendFail = 0 ∨ cfg.progs = []) := fun h2 => h (Or.inr h2)
      simp only [hun, Option.isSome_none, Bool.false_eq_true, if_false, h2, Bool.not_false, if_true, Option.getD_none]
      exact ⟨_, rfl, .crFail c hun h2⟩

theorem Stepped.flows {cfg : Cfg} {st : St σ} {addr : Addr} {msg : Msg} {r : StepRes σ} (h : Stepped cfg st addr msg r) :
    r.st.flows = st.flows ∨ ∃ fm, r.st.flows = setAddr st.flows addr fm := by
  cases h <;> first | exact Or.inl rfl | exact Or.inr ⟨_, rfl⟩

theorem Stepped.lookup_ne {cfg : Cfg} {st : St σ} {addr : Addr} {msg : Msg} {r : StepRes σ} (h : Stepped cfg st addr msg r)
    {a : Addr} (ha : a ≠ addr) : r.st.flows.lookup a = st.flows.lookup a := by
  rcases h.flows with e | ⟨fm, e⟩ <;> rw [e]
  rw [lookup_setAddr, if_neg ha]

theorem Stepped.sendFail_le {cfg : Cfg} {st : St σ} {addr : Addr} {msg : Msg} {r : StepRes σ} (h : Stepped cfg st addr msg r) :
    r.st.sendFail ≤ st.sendFail := by
  cases h <;> simp [StepRes.st] <;> omega

theorem Stepped.cont_of_zero {cfg : Cfg} {st : St σ} {addr : Addr} {msg : Msg} {r : StepRes σ} (h : Stepped cfg st addr msg r)
    (hsf : st.sendFail = 0) : ∃ st' evs, r = .cont st' evs := by
  cases h
  case rdyFail h => exact absurd (Or.inl hsf) h
  case crFail h => exact absurd (Or.inl hsf) h
  all_goals exact ⟨_, _, rfl⟩

def InstallEv (cfg : Cfg) (addr : Addr) (e : Ev) : Prop :=
  e = .txFail addr ∨ ∃ p ∈ cfg.progs, e = .tx addr p.install

/-- what a step emits on its own account: a callback, or an install send (successful or failed) to the sender -/
def OwnEv (cfg : Cfg) (addr : Addr) (e : Ev) : Prop := isCallback e = true ∨ InstallEv cfg addr e

/-- what a step emits: an `OwnEv`, or what user code causes through the handle of the flow the message speaks about -/
def StepEv (cfg : Cfg) (addr sid : Nat) (e : Ev) : Prop :=
  OwnEv cfg addr e ∨ ∃ flow, UserEv addr sid flow e ∧ UidOk cfg e

theorem ownEv_dropAll (cfg : Cfg) (addr : Addr) (fm : List (Nat × Flow σ)) : ∀ e ∈ dropAll fm, OwnEv cfg addr e :=
  List.forall_mem_map.mpr fun _ _ => Or.inl rfl

theorem ownEv_batch (cfg : Cfg) (addr : Addr) :
    ∀ e ∈ cfg.progs.map (fun p => Ev.tx addr p.install), OwnEv cfg addr e :=
  List.forall_mem_map.mpr fun p hp => Or.inr (Or.inr ⟨p, hp, rfl⟩)

theorem stepEv_user {cfg : Cfg} {addr sid flow : Nat} {evs : List Ev} (h : UserEvs cfg addr sid flow evs) :
    ∀ e ∈ evs, StepEv cfg addr sid e :=
  fun e he => Or.inr ⟨flow, h e he⟩

theorem Stepped.evs {cfg : Cfg} {st : St σ} {addr : Addr} {msg : Msg} {r : StepRes σ} (h : Stepped cfg st addr msg r) :
    ∀ e ∈ r.evs, StepEv cfg addr (msgSid msg) e := by
  have cb : ∀ {e : Ev}, isCallback e = true → StepEv cfg addr (msgSid msg) e := fun h => Or.inl (Or.inl h)
  have tf : StepEv cfg addr (msgSid msg) (.txFail addr) := Or.inl (Or.inr (Or.inl rfl))
  cases h <;> intro e he <;>
    simp only [StepRes.evs, List.mem_append, List.mem_cons, List.not_mem_nil, or_false] at he
  case report hu =>
    rcases he with rfl | he
    · exact cb rfl
    · exact stepEv_user hu e he
  case close hu =>
    rcases he with (rfl | he) | rfl
    · exact cb rfl
    · exact stepEv_user hu e he
    · exact cb rfl
  case rdy =>
    rcases he with he | he
    · exact Or.inl (ownEv_dropAll _ _ _ e he)
    · exact Or.inl (ownEv_batch _ _ e he)
  case rdyFail =>
    rcases he with he | rfl
    · exact Or.inl (ownEv_dropAll _ _ _ e he)
    · exact tf
  case crFail => subst he; exact tf
  case create hu =>
    rcases he with (he | he) | rfl | he
    · split at he
      · cases he
      · exact Or.inl (ownEv_batch _ _ e he)
    · exact Or.inl (ownEv_dropAll _ _ _ e he)
    · exact cb rfl
    · exact stepEv_user hu e he

/-- everything a step emits is a callback, an install send to the sender's address, or the effect of user code
through the handle of a flow of that address with the message's flow id -/
theorem step_ok (cfg : Cfg) (pol : Policy σ) (hb : pol.Bounded) (st : St σ) (addr : Addr) (msg : Msg) :
    ∃ r, step cfg pol st addr msg = .ok r ∧ ∀ e ∈ r.evs, StepEv cfg addr (msgSid msg) e := by
  obtain ⟨r, hr, hs⟩ := step_stepped cfg pol hb st addr msg
  exact ⟨r, hr, hs.evs⟩

end Portus.Rt
