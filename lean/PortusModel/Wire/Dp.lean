import PortusModel.Base.Bytes
import PortusModel.Base.Utf8
/-!
# Datapath → CCP messages (`src/serialize/{mod,create,measure,ready}.rs`)

The model follows the repaired code (DESIGN §6.1 F2–F5, F10): every Rust slice, index and cast is
kept as the panic-faithful primitive it is, and the theorems of C04/C07 show the guards in front of
them suffice.
-/
namespace Portus.Wire

open Portus

structure Raw where
  typ : Nat
  len : Nat
  sid : Nat
  bytes : Bytes
deriving Repr, DecidableEq, Inhabited

structure Create where
  sid : Nat
  cwnd : Nat
  mss : Nat
  srcIp : Nat
  srcPort : Nat
  dstIp : Nat
  dstPort : Nat
  /-- `cong_alg : Option<String>` as its UTF-8 bytes -/
  alg : Option Bytes
deriving Repr, DecidableEq, Inhabited

structure Measure where
  sid : Nat
  uid : Nat
  /-- `num_fields : u8` -/
  numFields : Nat
  fields : List Nat
deriving Repr, DecidableEq, Inhabited

inductive Msg where
  | cr (m : Create)
  | ms (m : Measure)
  | rdy (id : Nat)
  | other (r : Raw)
deriving Repr, DecidableEq, Inhabited

def CREATE : Nat := 0
def MEASURE : Nat := 1
def INSTALL : Nat := 2
def UPDATE_FIELD : Nat := 3
def CHANGEPROG : Nat := 4
def READY : Nat := 5

/-! ## Encoding -/

/-- `serialize_header(typ, len, sid)`: `len as u16`. -/
def serializeHeader (typ len sid : Nat) : Bytes := le16 typ ++ le16 len ++ le32 sid

/-- `serialize<T>` front: refuse lengths the 16-bit field cannot hold (F6), then the header. -/
def serializeWith (typ len sid : Nat) (body : Out Bytes) : Out Bytes :=
  if len > 65535 then .err else do
    let b ← body
    pure (serializeHeader typ len sid ++ b)

/-- `create::Msg::get_bytes`: 64-byte block, name copied into its prefix (F5). -/
def createNameBlock (alg : Option Bytes) : Out Bytes :=
  match alg with
  | none => .ok (zeros 64)
  | some c => if c.length > 63 then .err else .ok (c ++ zeros (64 - c.length))

def serializeCreate (m : Create) : Out Bytes :=
  serializeWith CREATE (8 + 6 * 4 + 64) m.sid do
    let nb ← createNameBlock m.alg
    pure (le32 m.cwnd ++ le32 m.mss ++ le32 m.srcIp ++ le32 m.srcPort ++ le32 m.dstIp
            ++ le32 m.dstPort ++ nb)

def serializeMeasure (m : Measure) : Out Bytes :=
  serializeWith MEASURE (8 + 8 + m.numFields * 8) m.sid
    (pure (le32 m.uid ++ le32 m.numFields ++ m.fields.flatMap le64))

def serializeReady (id : Nat) : Out Bytes :=
  serializeWith READY (8 + 4) 0 (pure (le32 id))

/-! ## Decoding -/

/-- `deserialize`: header (`read_exact` fails below 8 bytes; type codes above 255 are refused, F3),
then the two length checks and the payload slice. -/
def deserialize (buf : Bytes) : Out Raw :=
  if buf.length < 8 then .err else
  let typ := rd16 buf
  let len := rd16 (buf.drop 2)
  let sid := rd32 (buf.drop 4)
  if typ > 255 then .err else
  if len < 8 then .err else
  if len > buf.length then .err else do
    let bytes ← sliceP buf 8 len
    pure { typ := typ, len := len, sid := sid, bytes := bytes }

/-- `RawMsg::get_u32s` (length-checked, F2): the fixed `u32` block of a predefined type. -/
def getU32s (m : Raw) : Out Bytes :=
  let n := if m.typ = CREATE then 24 else if m.typ = MEASURE then 8
           else if m.typ = UPDATE_FIELD then 4 else if m.typ = READY then 4 else 0
  if m.typ ≠ CREATE ∧ m.typ ≠ MEASURE ∧ m.typ ≠ UPDATE_FIELD ∧ m.typ ≠ READY then .ok []
  else if m.bytes.length < n then .err
  else sliceP m.bytes 0 n

/-- `RawMsg::get_bytes` (`bytes.get(start..)`, F2). -/
def getBytes (m : Raw) : Out Bytes :=
  if m.typ = CREATE then (if 24 ≤ m.bytes.length then .ok (m.bytes.drop 24) else .err)
  else if m.typ = MEASURE then (if 8 ≤ m.bytes.length then .ok (m.bytes.drop 8) else .err)
  else if m.typ = UPDATE_FIELD then (if 4 ≤ m.bytes.length then .ok (m.bytes.drop 4) else .err)
  else .ok m.bytes

/-- the `k`-th `u32` of the transmuted block: Rust `u32s[k]` -/
def u32At (u : Bytes) (k : Nat) : Out Nat :=
  if 4 * k + 4 ≤ u.length then .ok (rd32 (u.drop (4 * k))) else .panic

/-- index of the first NUL byte: `b.iter().position(|&c| c == 0)` -/
def nulPos : Bytes → Option Nat
  | [] => none
  | x :: xs => if x = 0 then some 0 else (nulPos xs).map (· + 1)

def createFromRaw (m : Raw) : Out Create := do
  let u ← getU32s m
  let b ← getBytes m
  if b.length < 64 then .err else
  let alg ← (match nulPos b with
    | none => (.ok none : Out (Option Bytes))
    | some 0 => .ok none
    | some e => do
        let s ← sliceP b 0 e
        if validUtf8 s then pure (some s) else .err)
  let cwnd ← u32At u 0
  let mss ← u32At u 1
  let sip ← u32At u 2
  let sport ← u32At u 3
  let dip ← u32At u 4
  let dport ← u32At u 5
  pure { sid := m.sid, cwnd := cwnd, mss := mss, srcIp := sip, srcPort := sport,
         dstIp := dip, dstPort := dport, alg := alg }

/-- `deserialize_fields`: `chunks(8)`, a short last chunk is an error. -/
def deserializeFields : (fuel : Nat) → Bytes → Out (List Nat)
  | 0, _ => .ok []
  | fuel + 1, b =>
    if b.length = 0 then .ok []
    else if b.length < 8 then .err
    else do
      let rest ← deserializeFields fuel (b.drop 8)
      pure (rd64 b :: rest)

def measureFromRaw (m : Raw) : Out Measure := do
  let u ← getU32s m
  let b ← getBytes m
  let uid ← u32At u 0
  let nf ← u32At u 1
  if nf > 255 then .err else
  let fields ← deserializeFields (b.length + 1) b
  pure { sid := m.sid, uid := uid, numFields := nf, fields := fields }

def readyFromRaw (m : Raw) : Out Nat := do
  let u ← getU32s m
  u32At u 0

/-- `Msg::from_raw_msg` (install/update-field bytes are surfaced as `Other`, F4). -/
def fromRaw (m : Raw) : Out Msg :=
  if m.typ = CREATE then do let c ← createFromRaw m; pure (.cr c)
  else if m.typ = MEASURE then do let c ← measureFromRaw m; pure (.ms c)
  else if m.typ = READY then do let c ← readyFromRaw m; pure (.rdy c)
  else pure (.other m)

/-- `Msg::from_buf`: a buffer `deserialize` refuses is not an error but the message `Other { typ: 255, len: 0, sid: 0,
bytes: buf }` consuming the whole buffer (`serialize/mod.rs`, `map_or_else`). -/
def fromBuf (buf : Bytes) : Out (Msg × Nat) :=
  match deserialize buf with
  | .panic => .panic
  | .err => do
    let m ← fromRaw { typ := 255, len := 0, sid := 0, bytes := buf }
    pure (m, buf.length)
  | .ok r => do
    let m ← fromRaw r
    pure (m, r.len)

end Portus.Wire
