import PortusModel.Lang.Nom
import PortusModel.Lang.Parse
/-! What the parsers of `Lang/Nom` and `Lang/Parse` do on an input whose first characters are known: a parser is read
once, as an equation on a cons input or as an inversion of `= some _`, and its users rewrite with that instead of
unfolding it. Fuelled loops are read through the derivation `Many`. The introduction and failure rules per parser,
for whole renderings, are in `Lemmas/ParseRender`. -/
namespace Portus.Lang

/-! ## `tag`, tables of tags, the operator table -/

theorem tag_self (s rest : List Char) : tag s (s ++ rest) = some ((), rest) := by
  simp [tag]

theorem tag_nil (inp : List Char) : tag [] inp = some ((), inp) := by simp [tag]
theorem tag_cons_nil (a : Char) (s : List Char) : tag (a :: s) [] = none := by simp [tag]
theorem tag_cons_cons (a b : Char) (s inp : List Char) :
    tag (a :: s) (b :: inp) = if a = b then tag s inp else none := by
  by_cases h : a = b <;> simp [tag, h]

theorem tag_cons_ne {c d : Char} (s inp : List Char) (h : c ≠ d) : tag (d :: s) (c :: inp) = none := by
  rw [tag_cons_cons, if_neg h.symm]

/-- the two strings differ at a position where both are defined: then neither is a prefix of an extension
of the other -/
def diverge : List Char → List Char → Bool
  | a :: s, b :: t => a != b || diverge s t
  | _, _ => false

theorem tag_diverge {s t : List Char} (h : diverge s t = true) (rest : List Char) : tag s (t ++ rest) = none := by
  induction s generalizing t with
  | nil => cases t <;> cases h
  | cons a s ih =>
    cases t with
    | nil => cases h
    | cons b t =>
      rw [List.cons_append, tag_cons_cons]
      by_cases e : a = b
      · subst e
        simp only [diverge, bne_self_eq_false, Bool.false_or] at h
        rw [if_pos rfl, ih h]
      · rw [if_neg e]

theorem altTags_of_mem {α : Type} (tbl : List (List Char × α))
    (hp : tbl.Pairwise (fun p q => diverge p.1 q.1 = true)) :
    ∀ p ∈ tbl, ∀ rest, altTags tbl (p.1 ++ rest) = some (p.2, rest) := by
  induction tbl with
  | nil => intro p hp; cases hp
  | cons q tbl ih =>
    obtain ⟨s, a⟩ := q
    rw [List.pairwise_cons] at hp
    refine List.forall_mem_cons.mpr ⟨fun rest => by simp only [altTags, tag_self], fun p hm' rest => ?_⟩
    simp only [altTags, tag_diverge (hp.1 p hm')]
    exact ih hp.2 p hm' rest

theorem altTags_none {α : Type} (tbl : List (List Char × α)) (s : List Char)
    (h : ∀ q ∈ tbl, diverge q.1 s = true) (rest : List Char) : altTags tbl (s ++ rest) = none := by
  induction tbl with
  | nil => rfl
  | cons q tbl ih =>
    obtain ⟨t, a⟩ := q
    simp only [altTags, tag_diverge (h (t, a) (by simp))]
    exact ih (fun q hq => h q (by simp [hq]))

theorem altTags_mem {α : Type} (tbl : List (List Char × α)) (inp : List Char) (a : α) (r : List Char)
    (h : altTags tbl inp = some (a, r)) : ∃ s, (s, a) ∈ tbl := by
  induction tbl with
  | nil => simp [altTags] at h
  | cons p rest ih =>
    obtain ⟨s, x⟩ := p
    simp only [altTags] at h
    split at h
    · simp at h; exact ⟨s, by simp [h.1]⟩
    · obtain ⟨s', hs'⟩ := ih h
      exact ⟨s', by simp [hs']⟩

/-- C20: both spellings of each operator are read as the same operator, whatever follows (no alternative of
`ast::op` shadows a later one) -/
theorem spelling_table : ∀ p ∈ opTable, ∀ rest, op (p.1 ++ rest) = some (p.2, rest) :=
  altTags_of_mem opTable (by decide +kernel)

theorem opTable_ne_def : ∀ p ∈ opTable, p.2 ≠ Op.def := by
  decide +kernel

theorem op_ne_def (inp : List Char) (o : Op) (r : List Char) (h : op inp = some (o, r)) : o ≠ .def := by
  obtain ⟨s, hs⟩ := altTags_mem opTable inp o r h
  exact opTable_ne_def (s, o) hs

/-! ## White space, runs of characters, and `num` / `name` / `atom` on a cons input -/

theorem skipSpace_cons_of_not_space {c : Char} (h : isSpace c = false) (cs : List Char) :
    skipSpace (c :: cs) = c :: cs := by
  simp [skipSpace, h]

theorem skipSpace_idem (l : List Char) : skipSpace (skipSpace l) = skipSpace l := by
  induction l with
  | nil => rfl
  | cons c cs ih =>
    by_cases h : isSpace c = true
    · simp only [skipSpace, h, if_true]; exact ih
    · simp only [skipSpace, h]; simp [skipSpace, h]

theorem skipSpace_append_length_lt {t : List Char} (hne : t ≠ []) (x : List Char) :
    (skipSpace x).length < (t ++ x).length := by
  have := skipSpace_length_le x
  have : 0 < t.length := List.length_pos_iff.mpr hne
  simp only [List.length_append]
  omega

theorem spanChars_append (p : Char → Bool) (ds rest : List Char) (h1 : ∀ c ∈ ds, p c = true)
    (h2 : ∀ c, rest.head? = some c → p c = false) : spanChars p (ds ++ rest) = (ds, rest) := by
  induction ds with
  | nil =>
    cases rest with
    | nil => rfl
    | cons c cs => simp [spanChars, h2 c rfl]
  | cons d ds ih =>
    have := ih (fun c hc => h1 c (by simp [hc]))
    simp [spanChars, h1 d (by simp), this]

theorem digit1_eq : digit1 = takeWhile1 isAsciiDigit := rfl

theorem takeWhile1_append (p : Char → Bool) (ds rest : List Char) (hne : ds ≠ [])
    (h1 : ∀ c ∈ ds, p c = true) (h2 : ∀ c, rest.head? = some c → p c = false) :
    takeWhile1 p (ds ++ rest) = some (ds, rest) := by
  simp only [takeWhile1, spanChars_append p ds rest h1 h2]
  cases ds with
  | nil => exact absurd rfl hne
  | cons d ds => simp

section
variable (c : Char) (cs : List Char)

theorem takeWhile1_cons (p : Char → Bool) : takeWhile1 p (c :: cs) =
    if p c then some (c :: (spanChars p cs).1, (spanChars p cs).2) else none := by
  simp only [takeWhile1, spanChars]
  split <;> simp

theorem num_cons : num (c :: cs) =
    if isAsciiDigit c then
      (if digitsVal (c :: (spanChars isAsciiDigit cs).1) < 2^64
       then some (digitsVal (c :: (spanChars isAsciiDigit cs).1), (spanChars isAsciiDigit cs).2) else none)
    else none := by
  simp only [num, digit1_eq, takeWhile1_cons]
  by_cases h : isAsciiDigit c = true
  · simp only [h, if_true]
  · simp only [h]; rfl

theorem name_cons : name (c :: cs) =
    if isNameChar c then
      (if (c :: (spanChars isNameChar cs).1).all isAsciiDigit then none
       else if "__".toList.isPrefixOf (c :: (spanChars isNameChar cs).1) then none
       else some (c :: (spanChars isNameChar cs).1, (spanChars isNameChar cs).2))
    else none := by
  simp only [name, takeWhile1_cons]
  by_cases h : isNameChar c = true
  · simp only [h, if_true]
  · simp only [h]; rfl

theorem atom_cons : atom (c :: cs) =
    (match tag "true".toList (c :: cs) with
    | some (_, r) => some (.atom (.bool true), r)
    | none =>
    match tag "false".toList (c :: cs) with
    | some (_, r) => some (.atom (.bool false), r)
    | none =>
    match tag "+infinity".toList (c :: cs) with
    | some (_, r) => some (.atom (.num (2^64 - 1)), r)
    | none =>
    match num (c :: cs) with
    | some (n, r) => some (.atom (.num n), r)
    | none =>
    match name (c :: cs) with
    | some (s, r) => some (.atom (.name s), r)
    | none => none) := by rw [atom]; rfl

end

/-! ## `many0`, `many1` -/

/-- `p` succeeds on `inp` once per element of `as`, consuming input each time, and then fails on `out` -/
inductive Many {α : Type} (p : Parser α) : List Char → List α → List Char → Prop
  | stop {inp : List Char} (h : p inp = none) : Many p inp [] inp
  | step {inp r out : List Char} {a : α} {as : List α} (h : p inp = some (a, r)) (hlt : r.length < inp.length)
      (hs : Many p r as out) : Many p inp (a :: as) out

theorem manyLoop_of_many {α : Type} {p : Parser α} {inp out : List Char} {as : List α} (h : Many p inp as out) :
    ∀ (fuel : Nat) (acc : List α), inp.length < fuel → manyLoop p fuel inp acc = some (acc.reverse ++ as, out) := by
  induction h with
  | stop h =>
    intro fuel acc hf
    cases fuel with
    | zero => omega
    | succ f => simp [manyLoop, h]
  | step h hlt hs ih =>
    intro fuel acc hf
    cases fuel with
    | zero => omega
    | succ f =>
      simp only [manyLoop, h]
      rw [if_neg (by omega), ih f _ (by omega)]
      simp

theorem many0_of_many {α : Type} {p : Parser α} {inp out : List Char} {as : List α} (h : Many p inp as out) :
    many0 p inp = some (as, out) := by
  unfold many0
  rw [manyLoop_of_many h _ _ (by omega)]
  simp

theorem many1_of_many_ne {α : Type} {p : Parser α} {inp out : List Char} {as : List α} (h : Many p inp as out)
    (hne : as ≠ []) : many1 p inp = some (as, out) := by
  cases h with
  | stop => exact absurd rfl hne
  | step h hlt hs =>
    unfold many1
    simp only [h]
    rw [manyLoop_of_many hs _ _ (by omega)]
    simp

theorem manyLoop_all {α : Type} {P : α → Prop} {p : Parser α} (hp : ∀ i a r, p i = some (a, r) → P a) :
    ∀ (fuel : Nat) (inp : List Char) (acc l : List α) (r : List Char), (∀ a ∈ acc, P a) →
      manyLoop p fuel inp acc = some (l, r) → ∀ a ∈ l, P a := by
  intro fuel
  induction fuel with
  | zero =>
    intro inp acc l r hacc h
    simp only [manyLoop, Option.some.injEq, Prod.mk.injEq] at h
    obtain ⟨rfl, _⟩ := h
    intro a ha; exact hacc a (List.mem_reverse.mp ha)
  | succ k ih =>
    intro inp acc l r hacc h
    unfold manyLoop at h
    cases hpi : p inp with
    | none =>
      simp only [hpi, Option.some.injEq, Prod.mk.injEq] at h
      obtain ⟨rfl, _⟩ := h
      intro a ha; exact hacc a (List.mem_reverse.mp ha)
    | some q =>
      obtain ⟨a, r'⟩ := q
      simp only [hpi] at h
      split at h
      · cases h
      · exact ih r' (a :: acc) l r (List.forall_mem_cons.mpr ⟨hp _ _ _ hpi, hacc⟩) h

theorem many0_all {α : Type} {P : α → Prop} {p : Parser α} (hp : ∀ i a r, p i = some (a, r) → P a)
    {inp : List Char} {l : List α} {r : List Char} (h : many0 p inp = some (l, r)) : ∀ a ∈ l, P a :=
  manyLoop_all hp _ _ _ _ _ (fun _ h => by cases h) h

theorem many1_all {α : Type} {P : α → Prop} {p : Parser α} (hp : ∀ i a r, p i = some (a, r) → P a)
    {inp : List Char} {l : List α} {r : List Char} (h : many1 p inp = some (l, r)) : ∀ a ∈ l, P a := by
  unfold many1 at h
  cases hpi : p inp with
  | none => simp [hpi] at h
  | some q =>
    obtain ⟨a, r'⟩ := q
    simp only [hpi] at h
    exact manyLoop_all hp _ _ _ _ _ (List.forall_mem_singleton.mpr (hp _ _ _ hpi)) h

theorem many1_none {α : Type} {p : Parser α} {inp : List Char} (h : p inp = none) : many1 p inp = none := by
  unfold many1; rw [h]

/-! ## Declarations and `parseSource` -/

theorem defs_forall {P : Decl → Prop} (hp : ∀ i d r, decl i = some (d, r) → P d)
    (hr : ∀ d : Decl, P d → P { d with var := "Report.".toList ++ d.var }) {inp : List Char} {ds : List Decl}
    {r : List Char} (h : defs inp = some (ds, r)) : ∀ d ∈ ds, P d := by
  unfold defs at h
  simp only [Option.bind_eq_bind, Option.bind_eq_some_iff] at h
  -- one (result, equation) pair per step of `defs`; only the two `many0 decl` are read
  obtain ⟨_, -, _, -, _, -, d1, hd1, d2, hd2, _, -, _, -, h⟩ := h
  simp only [Option.pure_def, Option.some.injEq, Prod.mk.injEq] at h
  obtain ⟨rfl, _⟩ := h
  intro d hm
  simp only [List.mem_append, List.mem_map] at hm
  rcases hm with (⟨d0, hm0, rfl⟩ | hm) | hm
  · cases hrs : reportStruct d1.2 with
    | none => rw [hrs] at hm0; cases hm0
    | some q =>
      rw [hrs] at hm0
      unfold reportStruct at hrs
      simp only [Option.bind_eq_bind, Option.bind_eq_some_iff] at hrs
      -- the steps of `reportStruct`; only `many1 decl` is read
      obtain ⟨_, -, _, -, _, -, _, -, q', hq, _, -, _, -, _, -, e⟩ := hrs
      simp only [Option.pure_def, Option.some.injEq] at e
      subst e
      exact hr _ (many1_all hp hq d0 hm0)
  · exact many0_all hp hd1 d hm
  · exact many0_all hp hd2 d hm

theorem parseSource_inv {src : List Char} {ds : List Decl} {evs : List Event}
    (h : parseSource src = some (ds, evs)) : ∃ r evs0 r', defs src = some (ds, r) ∧
      events (src.length + 1) r = some (evs0, r') ∧ evs = evs0.map fun e => { e with body := e.body.map desugar } := by
  unfold parseSource at h
  simp only [Option.bind_eq_bind, Option.bind_eq_some_iff] at h
  obtain ⟨q, hq, p, hp, h⟩ := h
  split at h
  · simp at h
  · simp only [Option.pure_def, Option.some.injEq, Prod.mk.injEq] at h
    exact ⟨q.2, p.1, p.2, by rw [← h.1]; exact hq, hp, h.2.symm⟩

theorem parseSource_decl_forall {P : Decl → Prop} (hp : ∀ i d r, decl i = some (d, r) → P d)
    (hr : ∀ d : Decl, P d → P { d with var := "Report.".toList ++ d.var }) {src : List Char} {ds : List Decl}
    {evs : List Event} (h : parseSource src = some (ds, evs)) : ∀ d ∈ ds, P d := by
  obtain ⟨r, _, _, hd, -, -⟩ := parseSource_inv h
  exact defs_forall hp hr hd

theorem initTy_ne_name (e : Expr) (s : Name) : initTy e ≠ .name s := by
  unfold initTy; split <;> simp

theorem name_no_dunder {inp : List Char} {n : Name} {r : List Char} (h : name inp = some (n, r)) :
    "__".toList.isPrefixOf n = false := by
  unfold name at h
  split at h
  · cases h
  · split at h
    · cases h
    · split at h
      · cases h
      · rename_i hnd
        cases h
        exact Bool.eq_false_iff.mpr hnd

/-- what the parser guarantees of a declaration (not starting with `__`: so it is not `__eventFlag`) -/
def DeclOk (d : Decl) : Prop := (∀ s, d.init ≠ .name s) ∧ "__".toList.isPrefixOf d.var = false

theorem decl_ok {inp : List Char} {d : Decl} {r : List Char} (h : decl inp = some (d, r)) : DeclOk d := by
  unfold decl at h
  simp only [Option.bind_eq_bind, Option.bind_eq_some_iff] at h
  -- the steps of `decl`; only `name` is read
  obtain ⟨_, -, _, -, _, -, ⟨n, r1⟩, hn, _, -, _, -, _, -, _, -, _, -, h⟩ := h
  simp only [Option.pure_def, Option.some.injEq, Prod.mk.injEq] at h
  obtain ⟨rfl, _⟩ := h
  exact ⟨initTy_ne_name _, name_no_dunder hn⟩

/-- the entries of the Report block get the prefix `Report.`, which keeps both -/
theorem parseSource_decls {src : List Char} {ds : List Decl} {evs : List Event}
    (h : parseSource src = some (ds, evs)) : ∀ d ∈ ds, DeclOk d :=
  parseSource_decl_forall (fun _ _ _ => decl_ok) (fun _ hd => ⟨hd.1, rfl⟩) h

theorem parseSource_of {src : List Char} {ds : List Decl} {rest : List Char} {evs : List Event}
    (h1 : defs src = some (ds, rest)) (h2 : events (src.length + 1) rest = some (evs, [])) :
    parseSource src = some (ds, evs.map fun e => { e with body := e.body.map desugar }) := by
  simp [parseSource, h1, h2]

theorem parseSource_none_of_events {src : List Char} {ds : List Decl} {rest : List Char}
    (h1 : defs src = some (ds, rest)) (h2 : events (src.length + 1) rest = none) :
    parseSource src = none := by
  simp [parseSource, h1, h2]

theorem parseSource_none_of_defs {src : List Char} (h1 : defs src = none) : parseSource src = none := by
  simp [parseSource, h1]

/-- drop the `Expr.none` items (comments) of every body -/
def stripNone (evs : List Event) : List Event :=
  evs.map fun e => { e with body := e.body.filter (· ≠ .none) }

/-! ## The remaining parsers on a cons input

Each equation is the definition of the parser with its input restricted to `c :: cs` (or to `[]`): a rewrite rule
that fires on a text whose head is a literal character and stops where the text becomes a variable, like
`tag_cons_cons`, `num_cons`, `name_cons`, `atom_cons` above, for the other parsers. -/

section
variable (c : Char) (cs : List Char)

theorem takeWhile1_nil (p : Char → Bool) : takeWhile1 p [] = none := rfl

theorem command_cons : command (c :: cs) = (do
  let (_, r) ← tag "(".toList (c :: cs)
  let (_, r) ← ms0 r
  let (c, r) ← altTags [("fallthrough".toList, Command.fallthrough), ("report".toList, Command.report)] r
  let (_, r) ← ms0 r
  let (_, r) ← tag ")".toList r
  pure (.cmd c, r)) := rfl

theorem comment_cons : comment (c :: cs) = (do
  let (_, r) ← tag "#".toList (c :: cs)
  let (_, r) ← takeUntilNl r
  pure (.none, r)) := rfl

theorem expr_cons (fuel : Nat) : expr (fuel + 1) (c :: cs) =
    (let inp := skipSpace (c :: cs)
    let res : Option (Expr × List Char) :=
      match comment inp with
      | some x => some x
      | none =>
      match (do
          let (_, r) ← tag "(".toList inp
          let (_, r) ← ms0 r
          let (o, r) ← op r
          let (_, r) ← ms0 r
          let (l, r) ← expr fuel r
          let (_, r) ← ms0 r
          let (rt, r) ← expr fuel r
          let e ← checkExpr o l rt
          let (_, r) ← ms0 r
          let (_, r) ← tag ")".toList r
          pure (e, r) : Option (Expr × List Char)) with
      | some x => some x
      | none =>
      match command inp with
      | some x => some x
      | none => atom inp
    match res with
    | some (e, r) => some (e, skipSpace r)
    | none => none) := by rw [expr]; rfl

theorem expr_nil (fuel : Nat) : expr (fuel + 1) [] = none := by
  simp [expr, skipSpace, comment, tag, command, atom, num, digit1, takeWhile1, spanChars, name]

theorem decl_cons : decl (c :: cs) = (do
  let (_, r) ← ms0 (c :: cs)
  let (_, r) ← tag "(".toList r
  let (_, r) ← ms0 r
  let (v, r) : Bool × List Char :=
    match (do let (_, q) ← ms0 r; let (_, q) ← tag "volatile".toList q; let (_, q) ← ms0 q; pure q : Option (List Char)) with
    | some q => (true, q)
    | none => (false, r)
  let (n, r) ← name r
  let (_, r) ← ms0 r
  let (a, r) ← atom r
  let (_, r) ← ms0 r
  let (_, r) ← tag ")".toList r
  let (_, r) ← ms0 r
  pure ({ vol := v, var := n, init := initTy a }, r)) := rfl

theorem reportStruct_cons : reportStruct (c :: cs) = (do
  let (_, r) ← ms0 (c :: cs)
  let (_, r) ← tag "(".toList r
  let (_, r) ← ms0 r
  let (_, r) ← tag "Report".toList r
  let (ds, r) ← many1 decl r
  let (_, r) ← ms0 r
  let (_, r) ← tag ")".toList r
  let (_, r) ← ms0 r
  pure (ds, r)) := rfl

theorem many0_cons {α : Type} (p : Parser α) : many0 p (c :: cs) = manyLoop p (cs.length + 2) (c :: cs) [] := rfl

theorem many1_cons {α : Type} (p : Parser α) : many1 p (c :: cs) =
    (match p (c :: cs) with
    | none => none
    | some (a, r) => manyLoop p (r.length + 1) r [a]) := rfl

theorem manyLoop_cons {α : Type} (p : Parser α) (fuel : Nat) (acc : List α) :
    manyLoop p (fuel + 1) (c :: cs) acc =
    (match p (c :: cs) with
    | none => some (acc.reverse, c :: cs)
    | some (a, r) => if r.length = cs.length + 1 then none else manyLoop p fuel r (a :: acc)) := rfl

theorem manyLoop_nil {α : Type} (p : Parser α) (fuel : Nat) (acc : List α) :
    manyLoop p (fuel + 1) [] acc =
    (match p [] with
    | none => some (acc.reverse, [])
    | some (a, r) => if r.length = 0 then none else manyLoop p fuel r (a :: acc)) := rfl

theorem event_cons (fuel : Nat) : event fuel (c :: cs) = (do
  let (_, r) ← ms0 (c :: cs)
  let (_, r) ← tag "(".toList r
  let (_, r) ← ms0 r
  let (_, r) ← tag "when".toList r
  let (c, r) ← expr fuel r
  let (b, r) ← exprs fuel r
  let (_, r) ← ms0 r
  let (_, r) ← tag ")".toList r
  let (_, r) ← ms0 r
  pure ({ flag := c, body := b }, r)) := rfl

theorem event_nil (fuel : Nat) : event fuel [] = none := rfl

end

theorem comment_nil : comment [] = none := rfl

/-! Decimal numerals: `digitsVal` is the positional value, `atom` / `expr` read a maximal numeral exactly. -/

theorem isAsciiDigit_iff (c : Char) : isAsciiDigit c = true ↔ 48 ≤ c.toNat ∧ c.toNat ≤ 57 := by
  simp only [isAsciiDigit, Bool.and_eq_true, decide_eq_true_eq, Char.le_def, UInt32.le_iff_toNat_le, Char.toNat]
  exact Iff.rfl

theorem digit_nameChar {c : Char} (h : isAsciiDigit c = true) : isNameChar c = true := by
  rw [isAsciiDigit_iff] at h
  simp only [isNameChar, isAlnumLowByte, Bool.or_eq_true, Bool.and_eq_true, decide_eq_true_eq]
  left; left; right
  omega

theorem ne_of_true_false {p : Char → Bool} {c d : Char} (h : p c = true) (hd : p d = false) : c ≠ d := by
  intro e; subst e; rw [h] at hd; cases hd

theorem num_numeral (ds rest : List Char) (hne : ds ≠ []) (hd : ∀ c ∈ ds, isAsciiDigit c = true)
    (hr : ∀ c, rest.head? = some c → isAsciiDigit c = false) :
    num (ds ++ rest) = if digitsVal ds < 2^64 then some (digitsVal ds, rest) else none := by
  simp only [num, digit1_eq, takeWhile1_append isAsciiDigit ds rest hne hd hr]

theorem name_numeral (ds rest : List Char) (hne : ds ≠ []) (hd : ∀ c ∈ ds, isAsciiDigit c = true)
    (hr : ∀ c, rest.head? = some c → isNameChar c = false) :
    name (ds ++ rest) = none := by
  simp only [name, takeWhile1_append isNameChar ds rest hne (fun c hc => digit_nameChar (hd c hc)) hr,
    List.all_eq_true.mpr hd, if_true]

theorem atom_numeral (ds rest : List Char) (hne : ds ≠ []) (hd : ∀ c ∈ ds, isAsciiDigit c = true)
    (hr : ∀ c, rest.head? = some c → isNameChar c = false) :
    atom (ds ++ rest) = if digitsVal ds < 2^64 then some (.atom (.num (digitsVal ds)), rest) else none := by
  have hr' : ∀ c, rest.head? = some c → isAsciiDigit c = false := fun c hc =>
    Bool.eq_false_iff.mpr fun h => by have := digit_nameChar h; rw [hr c hc] at this; cases this
  have hnum := num_numeral ds rest hne hd hr'
  have hname := name_numeral ds rest hne hd hr
  cases ds with
  | nil => exact absurd rfl hne
  | cons d ds' =>
    have hdd : isAsciiDigit d = true := hd d (by simp)
    have t1 : tag "true".toList (d :: ds' ++ rest) = none :=
      tag_cons_ne _ _ (ne_of_true_false hdd (by decide))
    have t2 : tag "false".toList (d :: ds' ++ rest) = none :=
      tag_cons_ne _ _ (ne_of_true_false hdd (by decide))
    have t3 : tag "+infinity".toList (d :: ds' ++ rest) = none :=
      tag_cons_ne _ _ (ne_of_true_false hdd (by decide))
    by_cases hlt : digitsVal (d :: ds') < 2^64
    · simp only [atom, t1, t2, t3, hnum, if_pos hlt]
    · simp only [atom, t1, t2, t3, hnum, hname, if_neg hlt]

theorem digitsVal_snoc (ds : List Char) (d : Char) :
    digitsVal (ds ++ [d]) = 10 * digitsVal ds + (d.toNat - 48) := by
  simp [digitsVal, List.foldl_append]

theorem digitsVal_repr (n : Nat) : digitsVal (Nat.toDigits 10 n) = n :=
  Nat.ofDigitChars_ten_toDigits

theorem toDigits_isAsciiDigit (n : Nat) : ∀ c ∈ Nat.toDigits 10 n, isAsciiDigit c = true :=
  fun _ hc => Nat.isDigit_of_mem_toDigits (by omega) (by omega) hc

theorem space_not_nameChar {c : Char} (h : isSpace c = true) : isNameChar c = false := by
  simp only [isSpace, Bool.or_eq_true, decide_eq_true_eq] at h
  rcases h with ((rfl | rfl) | rfl) | rfl <;> decide

theorem nameChar_not_space {c : Char} (h : isNameChar c = true) : isSpace c = false :=
  Bool.eq_false_iff.mpr fun hs => by rw [space_not_nameChar hs] at h; cases h

theorem skipSpace_numeral (ds rest : List Char) (hne : ds ≠ []) (hd : ∀ c ∈ ds, isAsciiDigit c = true) :
    skipSpace (ds ++ rest) = ds ++ rest := by
  cases ds with
  | nil => exact absurd rfl hne
  | cons d ds' => exact skipSpace_cons_of_not_space (nameChar_not_space (digit_nameChar (hd d (by simp)))) _

/-- in front of anything but a comment or a parenthesis, `expr` is `atom` -/
theorem expr_of_head {fuel : Nat} {inp cs : List Char} {c : Char} (h0 : skipSpace inp = c :: cs) (hc1 : c ≠ '#')
    (hc2 : c ≠ '(') : expr (fuel + 1) inp = (atom (c :: cs)).map fun p => (p.1, skipSpace p.2) := by
  rw [expr]
  simp only [h0, comment, command, String.reduceToList, tag_cons_ne _ _ hc1, tag_cons_ne _ _ hc2,
    Option.bind_eq_bind, Option.bind_none]
  cases atom (c :: cs) <;> rfl

theorem expr_numeral (f : Nat) (ds rest : List Char) (c : Char) (hc : isNameChar c = false) (hne : ds ≠ [])
    (hd : ∀ c ∈ ds, isAsciiDigit c = true) :
    expr (f + 1) (ds ++ c :: rest) =
      if digitsVal ds < 2^64 then some (.atom (.num (digitsVal ds)), skipSpace (c :: rest)) else none := by
  have hat := atom_numeral ds (c :: rest) hne hd (by intro c' h; simp at h; subst h; exact hc)
  cases ds with
  | nil => exact absurd rfl hne
  | cons d ds' =>
    have hdd : isAsciiDigit d = true := hd d (by simp)
    rw [List.cons_append] at hat
    rw [expr_of_head (cs := ds' ++ c :: rest) (skipSpace_numeral (d :: ds') (c :: rest) hne hd)
      (ne_of_true_false hdd (by decide)) (ne_of_true_false hdd (by decide)), hat]
    split <;> rfl

theorem atom_infinity (rest : List Char) :
    atom ("+infinity".toList ++ rest) = some (.atom (.num (2^64 - 1)), rest) := by
  simp only [String.reduceToList, List.cons_append, List.nil_append, atom_cons, tag_cons_cons, tag_nil,
    Char.reduceEq, if_true, if_false]

end Portus.Lang
