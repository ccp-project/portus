import PortusModel.Lang.Sem
import PortusModel.Lang.Lower
/-!
# The fragment of C01 and the shared definitions of its correctness proof
(decidable hypotheses of DESIGN §5 C01; comparable observations; the simulation relation)
-/
namespace Portus.Lang.Frag
open Portus Portus.Lang Portus.Vm

/-- a pure expression: operators over literals and variables, no assignment, conditional or command -/
def pureE : Expr → Bool
  | .atom _ => true
  | .sexp o l r =>
    (match o with | .bind | .if | .notIf | .ewma | .def => false | _ => true) && pureE l && pureE r
  | _ => false

/-- a statement: an assignment of a pure expression, or of a conditional / ewma over pure operands,
to a name; comments are allowed -/
def stmtOk : Expr → Bool
  | .none => true
  | .sexp .bind (.atom (.name _)) (.sexp .if c v) => pureE c && pureE v
  | .sexp .bind (.atom (.name _)) (.sexp .notIf c v) => pureE c && pureE v
  | .sexp .bind (.atom (.name _)) (.sexp .ewma a v) => pureE a && pureE v
  | .sexp .bind (.atom (.name _)) r => pureE r
  | _ => false

/-- the stratified sub-fragment of `InOracle` below (no bind inside an expression: `inOracle_of_stratified`); the
non-vacuity statements speak of it -/
def Stratified (evs : List Event) : Bool := evs.all fun ev => pureE ev.flag && ev.body.all stmtOk

/-- every numeric literal fits the immediate field: `< 2^31`, or `+infinity` (C14: otherwise the
program does not serialize) -/
def litsOkE : Expr → Bool
  | .atom (.num n) => decide (n < 2^31) || decide (n = 2^64 - 1)
  | .sexp _ l r => litsOkE l && litsOkE r
  | _ => true

def LitsOk (evs : List Event) : Bool := evs.all fun ev => litsOkE ev.flag && ev.body.all litsOkE

def lastVal (n : Name) : List (Name × Nat) → Option Nat
  | [] => none
  | (m, v) :: rest => (lastVal n rest).orElse fun _ => if m = n then some v else none

/-- declared variables with *literal* initial values (`LiteralInits`), none of them libccp's legacy
"infinity" sentinel (`NoLegacyInf`), in slot order: report variables first -/
def varDecls (ds : List Decl) (upd : List (Name × Nat)) : Option (List Sem.VarDecl) :=
  let one (d : Decl) : Option Sem.VarDecl :=
    let isRep := "Report.".toList.isPrefixOf d.var
    let init : Option Nat := match lastVal d.var upd with
      | some v => some v
      | none => match d.init with
        | .num (some n) => some n
        | .bool (some b) => some (if b then 1 else 0)
        | _ => none
    match init with
    | some n => if n = 0x3fffffff then none else some { name := d.var, isReport := isRep, vol := d.vol, init := Sem.immVal n }
    | none => none
  do
    let rs ← (ds.filter fun d => "Report.".toList.isPrefixOf d.var).mapM one
    let cs ← (ds.filter fun d => !("Report.".toList.isPrefixOf d.var)).mapM one
    pure (rs ++ cs)

/-- observation of one invocation as both sides can be compared: settings as the `u32` the datapath
callbacks receive -/
inductive IObs where
  | fault (rc : Int)
  | done (setCwnd setRate : Option Nat) (report : Option (List Nat))
deriving Repr, DecidableEq, Inhabited

def ofSem : Sem.InvObs → Option IObs
  | .fault rc => some (.fault rc)
  | .done c r rep => some (.done (c.map fun v => v.toUInt32.toNat) (r.map fun v => v.toUInt32.toNat)
                            (rep.map fun l => l.map (·.toNat)))
  | .outside => none

def ofVm (o : Vm.Obs) : IObs :=
  if o.rc < 0 then .fault o.rc
  else .done (o.setCwnd.map fun v => v.toUInt32.toNat) (o.setRate.map fun v => v.toUInt32.toNat)
         (o.report.map fun p => p.2.map (·.toNat))


/-! ## machine runs without staging: what `ccp_invoke` does once a program is in place -/

/-- `ccp_invoke` with nothing staged or pending: load `Cwnd`/`Rate` from the primitives, run the state machine -/
def vmInvoke (p : Program) (env : Env) (c : Conn) : Conn × Vm.Obs :=
  stateMachine env p
    { c with regs := { c.regs with impl := (c.regs.impl.set 4 (env.prims.sndCwnd.toUInt32.toUInt64)).set 5 env.prims.sndRate } }
    { rc := 0, setCwnd := none, setRate := none, report := none }

def vmRun (p : Program) : Conn → List Env → List Vm.Obs
  | _, [] => []
  | c, env :: rest => let r := vmInvoke p env c; r.2 :: vmRun p r.1 rest

/-! ## the register assignment and the simulation relation -/

/-- which register file a class lives in (both control classes share one array, both report classes too) -/
def fileOf (cls : Nat) : Nat :=
  if cls = 0 ∨ cls = 8 then 0 else if cls = 5 ∨ cls = 6 then 5 else cls

def sameCell (a b : VReg) : Prop := fileOf a.cls = fileOf b.cls ∧ a.idx = b.idx

def primNames : List String :=
  ["Ack.bytes_acked", "Ack.bytes_misordered", "Ack.ecn_bytes", "Ack.ecn_packets", "Ack.lost_pkts_sample",
   "Ack.now", "Ack.packets_acked", "Ack.packets_misordered", "Flow.bytes_in_flight", "Flow.bytes_pending",
   "Flow.packets_in_flight", "Flow.rate_incoming", "Flow.rate_outgoing", "Flow.rtt_sample_us", "Flow.was_timeout"]

def implNames : List String := ["__eventFlag", "__shouldContinue", "__shouldReport", "Micros", "Cwnd", "Rate"]

def isBuiltinName (x : Name) : Bool := primNames.any (·.toList = x) || implNames.any (·.toList = x)

theorem isBuiltinName_iff {x : Name} : isBuiltinName x = true ↔ ∃ s ∈ primNames ++ implNames, s.toList = x := by
  simp only [isBuiltinName, Bool.or_eq_true, List.any_eq_true, decide_eq_true_eq, List.mem_append, or_and_right,
    exists_or]

/-- what the proof needs to know about the final scope `ρ` of an accepted program with declarations
`decls` (all of it follows from C13 `compile_scope_slots` and the encoder's index limits) -/
structure RhoOk (ρ : Rho) (decls : List Sem.VarDecl) : Prop where
  prims : ∀ i (h : i < 15), ρ primNames[i].toList = some ⟨4, i⟩
  impls : ∀ i (h : i < 6), ρ implNames[i].toList = some ⟨2, i⟩
  /-- every other bound name lives in a report, control or local cell inside the register files -/
  vars : ∀ x r, ρ x = some r → isBuiltinName x = false →
    (r.cls = 3 ∧ r.idx < 8) ∨ ((r.cls = 0 ∨ r.cls = 8) ∧ r.idx < 110) ∨ ((r.cls = 5 ∨ r.cls = 6) ∧ r.idx < 110)
  /-- distinct names, distinct cells -/
  inj : ∀ x y rx ry, ρ x = some rx → ρ y = some ry → sameCell rx ry → x = y
  /-- the k-th declared report variable sits in report slot k, volatile or not as declared -/
  reports : ∀ k (h : k < (decls.filter (·.isReport)).length),
    ρ (decls.filter (·.isReport))[k].name = some ⟨if (decls.filter (·.isReport))[k].vol then 5 else 6, k⟩
  controls : ∀ k (h : k < (decls.filter (!·.isReport)).length),
    ρ (decls.filter (!·.isReport))[k].name = some ⟨if (decls.filter (!·.isReport))[k].vol then 8 else 0, k⟩
  declNames : ∀ d ∈ decls, isBuiltinName d.name = false
  declNodup : (decls.map (·.name)).Nodup
  /-- declared initial values fit the immediate field (C14) and are not libccp's legacy infinity sentinel -/
  inits : ∀ d ∈ decls, (d.init.toNat < 2^31 ∨ d.init = U32MAX) ∧ d.init.toNat ≠ 0x3fffffff
  /-- names that are neither built-in nor declared are locals -/
  locals : ∀ x r, ρ x = some r → isBuiltinName x = false → (∀ d ∈ decls, d.name ≠ x) → r.cls = 3

/-- the DEF instruction of a declared variable -/
def mkDef (ρ : Rho) (d : Sem.VarDecl) : VInstr :=
  let r := (ρ d.name).getD ⟨99, 0⟩
  { op := 2, ret := r, left := r, right := ⟨1, d.init.toNat⟩ }

/-- the DEF preamble is one DEF per declared variable, in some (register-file) order -/
def DefsFor (ρ : Rho) (decls : List Sem.VarDecl) (defs : List VInstr) : Prop :=
  defs.Perm (decls.map (mkDef ρ))

/-- the machine state `c` represents the source state `s`: every bound name's register holds the
variable's value (for every environment: primitives and the clock are read identically by both),
and the origin of `Micros` agrees -/
def Sim (ρ : Rho) (s : Sem.SrcState) (c : Conn) : Prop :=
  (∀ env x r, ρ x = some r → readReg env c r = Sem.read env s x) ∧ c.t0 = s.t0

/-- every temporary index used by the lowered code exists in libccp (the encoder enforces it) -/
def TmpsOk (is : List VInstr) : Prop :=
  ∀ i ∈ is, (i.ret.cls = 7 → i.ret.idx < 8) ∧ (i.left.cls = 7 → i.left.idx < 8) ∧ (i.right.cls = 7 → i.right.idx < 8)

/-! ## the fragment of the theorem (and of the oracle `C01.check`): stratified programs, plus hazard-free nested binds

A plain bind `(:= y e)` may also occur *as a value* inside an expression, provided no operator reads, as its left
operand, a variable that its right operand assigns (operand registers are read when the consuming instruction runs),
and the nested target is an ordinary variable (not a built-in register, whose write transforms the value).
So may a guarded bind — `(:= y (if c v))`, `(:= y (!if c v))`, `(:= y (ewma a v))` — under the same discipline: its
result register is the register of `y`, it assigns `y` and what its operands assign, and its two operands must be
hazard-free against each other as at statement level (`stmtOk2`). A statement may also be a bare operator
expression (a pure operator at the top, `valueE` as a whole): evaluated for its nested binds and its faults, its
value dropped. -/

def writesIn : Expr → List Name
  | .sexp .bind (.atom (.name x)) r => x :: writesIn r
  | .sexp _ l r => writesIn l ++ writesIn r
  | _ => []

/-- the variable whose register is the operand's result register, if any -/
def resultName : Expr → Option Name
  | .atom (.name x) => some x
  | .sexp .bind (.atom (.name x)) _ => some x
  | _ => none

def noHazard (l r : Expr) : Bool :=
  match resultName l with
  | some x => !(writesIn r).contains x
  | none => true

/-- usable as a value: operators over atoms and nested plain or guarded binds to ordinary variables, hazard-free -/
def valueE : Expr → Bool
  | .atom _ => true
  | .sexp .bind (.atom (.name x)) (.sexp .if c v) => !isBuiltinName x && valueE c && valueE v && noHazard c v
  | .sexp .bind (.atom (.name x)) (.sexp .notIf c v) => !isBuiltinName x && valueE c && valueE v && noHazard c v
  | .sexp .bind (.atom (.name x)) (.sexp .ewma a v) => !isBuiltinName x && valueE a && valueE v && noHazard a v
  | .sexp .bind (.atom (.name x)) r => !isBuiltinName x && valueE r
  | .sexp o l r =>
    (match o with | .bind | .if | .notIf | .ewma | .def => false | _ => true) && valueE l && valueE r && noHazard l r
  | _ => false

/-- a statement of the fragment: a comment, a (plain or guarded) bind of value expressions, or a *bare* operator
expression over value expressions, evaluated for its nested binds and its faults, its value discarded -/
def stmtOk2 : Expr → Bool
  | .none => true
  | .sexp .bind (.atom (.name _)) (.sexp .if c v) => valueE c && valueE v && noHazard c v
  | .sexp .bind (.atom (.name _)) (.sexp .notIf c v) => valueE c && valueE v && noHazard c v
  | .sexp .bind (.atom (.name _)) (.sexp .ewma a v) => valueE a && valueE v && noHazard a v
  | .sexp .bind (.atom (.name _)) r => valueE r
  | .sexp o l r => (pureOpcode o).isSome && valueE (.sexp o l r)
  | _ => false

/-- the programs the oracle decides -/
def InOracle (evs : List Event) : Bool := evs.all fun ev => pureE ev.flag && ev.body.all stmtOk2

/-- the operator test of `pureE` (and of `valueE`) is "`pureOpcode` is defined" -/
theorem pureE_node (o : Op) (l r : Expr) :
    pureE (.sexp o l r) = ((pureOpcode o).isSome && pureE l && pureE r) := by
  cases o <;> rfl

theorem pureE_sexp {o : Op} {l r : Expr} (h : pureE (.sexp o l r) = true) :
    (∃ code, pureOpcode o = some code) ∧ pureE l = true ∧ pureE r = true := by
  rw [pureE_node, Bool.and_eq_true, Bool.and_eq_true, Option.isSome_iff_exists] at h
  exact ⟨h.1.1, h.1.2, h.2⟩

theorem writesIn_op {o : Op} {code : Nat} (ho : pureOpcode o = some code) (l r : Expr) :
    writesIn (.sexp o l r) = writesIn l ++ writesIn r := by
  apply writesIn.eq_2
  intro x hb
  subst hb
  cases ho

theorem valueE_op {o : Op} {code : Nat} (ho : pureOpcode o = some code) (l r : Expr) :
    valueE (.sexp o l r) = (valueE l && valueE r && noHazard l r) := by
  cases o <;> simp only [pureOpcode, reduceCtorEq] at ho <;> simp only [valueE, Bool.true_and]

theorem writesIn_pure {e : Expr} (h : pureE e = true) : writesIn e = [] := by
  induction e with
  | atom p => rfl
  | cmd _ | none => cases h
  | sexp o l r ihl ihr =>
    obtain ⟨⟨code, ho⟩, hl, hr⟩ := pureE_sexp h
    rw [writesIn_op ho, ihl hl, ihr hr]
    rfl

theorem noHazard_of_pure {l r : Expr} (hr : pureE r = true) : noHazard l r = true := by
  unfold noHazard; split <;> simp [writesIn_pure hr]

theorem valueE_of_pure {e : Expr} (h : pureE e = true) : valueE e = true := by
  induction e with
  | atom p => rfl
  | cmd _ | none => cases h
  | sexp o l r ihl ihr =>
    obtain ⟨⟨code, ho⟩, hl, hr⟩ := pureE_sexp h
    rw [valueE_op ho, ihl hl, ihr hr, noHazard_of_pure hr]
    rfl

theorem stmtOk2_of_stmtOk {e : Expr} (h : stmtOk e = true) : stmtOk2 e = true := by
  unfold stmtOk at h
  split at h
  case h_1 => rfl
  case h_2 | h_3 | h_4 =>
    simp only [Bool.and_eq_true] at h
    simp [stmtOk2, valueE_of_pure h.1, valueE_of_pure h.2, noHazard_of_pure h.2]
  case h_5 x r h1 h2 h3 =>
    rw [stmtOk2.eq_5 x r h1 h2 h3]
    exact valueE_of_pure h
  case h_6 => cases h

theorem inOracle_of_stratified {evs : List Event} (h : Stratified evs = true) : InOracle evs = true := by
  unfold Stratified at h
  unfold InOracle
  simp only [List.all_eq_true, Bool.and_eq_true] at h ⊢
  intro ev hev
  exact ⟨(h ev hev).1, fun e he => stmtOk2_of_stmtOk ((h ev hev).2 e he)⟩

theorem condCode_cases {op : Op} {code : Nat} (h : condCode op = some code) :
    (op = .if ∧ code = 7) ∨ (op = .notIf ∧ code = 13) ∨ (op = .ewma ∧ code = 5) := by
  cases op <;> simp [condCode] at h <;> simp [h]

/-- not `(if ..)`, `(!if ..)`, `(ewma ..)`: the side conditions of the catch-all equations of a bind (`lowerE.eq_7`,
`valueE.eq_5`, `Sem.evalE.eq_7`), i.e. the bind is a plain one -/
def NotCond (e : Expr) : Prop :=
  (∀ c v, e = .sexp .if c v → False) ∧ (∀ c v, e = .sexp .notIf c v → False) ∧
  (∀ a v, e = .sexp .ewma a v → False)

theorem notCond_or (e : Expr) : NotCond e ∨ ∃ op a b code, e = .sexp op a b ∧ condCode op = some code := by
  cases e with
  | sexp o a b =>
    cases o <;> first
      | exact .inr ⟨_, _, _, _, rfl, rfl⟩
      | (left; refine ⟨?_, ?_, ?_⟩ <;> (intro c v h; cases h))
  | _ => left; refine ⟨?_, ?_, ?_⟩ <;> (intro c v h; cases h)

theorem valueE_sexp_cases {o : Op} {l r : Expr} (h : valueE (.sexp o l r) = true) :
    (∃ x, o = .bind ∧ l = .atom (.name x) ∧ isBuiltinName x = false ∧ valueE r = true) ∨
    (∃ x op a b code, o = .bind ∧ l = .atom (.name x) ∧ r = .sexp op a b ∧ condCode op = some code ∧
      isBuiltinName x = false ∧ valueE a = true ∧ valueE b = true ∧ noHazard a b = true) ∨
    (∃ code, pureOpcode o = some code ∧ valueE l = true ∧ valueE r = true ∧ noHazard l r = true) := by
  by_cases hb : ∃ x, o = .bind ∧ l = .atom (.name x)
  · obtain ⟨x, rfl, rfl⟩ := hb
    rcases notCond_or r with ⟨h1, h2, h3⟩ | ⟨op, a, b, code, rfl, hc⟩
    · rw [valueE.eq_5 x r h1 h2 h3] at h
      simp only [Bool.and_eq_true, Bool.not_eq_true'] at h
      exact .inl ⟨x, rfl, rfl, h.1, h.2⟩
    · right; left
      rcases condCode_cases hc with ⟨rfl, rfl⟩ | ⟨rfl, rfl⟩ | ⟨rfl, rfl⟩ <;>
        (simp only [valueE, Bool.and_eq_true, Bool.not_eq_true'] at h
         exact ⟨x, _, a, b, _, rfl, rfl, rfl, rfl, h.1.1.1, h.1.1.2, h.1.2, h.2⟩)
  · right; right
    have hne : ∀ x, o = .bind → l = .atom (.name x) → False := fun x h1 h2 => hb ⟨x, h1, h2⟩
    -- `bind` (not to a name): the catch-all equation, no value; `if`, `!if`, `ewma`, `def`: no value; a pure operator
    cases o <;> first
      | (rw [valueE.eq_6 _ _ (fun x _ _ h1 h2 _ => hne x h1 h2) (fun x _ _ h1 h2 _ => hne x h1 h2)
            (fun x _ _ h1 h2 _ => hne x h1 h2) hne] at h; simp at h; done)
      | (simp only [valueE, Bool.and_eq_true, Bool.false_eq_true, false_and, Bool.true_and] at h; done)
      | (simp only [valueE, Bool.and_eq_true, Bool.true_and] at h
         exact ⟨_, rfl, h.1.1, h.1.2, h.2⟩)

theorem valueE_not_cond {e : Expr} (hp : valueE e = true) : NotCond e := by
  refine ⟨?_, ?_, ?_⟩ <;> (intro c v h; subst h; simp [valueE] at hp)

theorem writesIn_guard {op : Op} {code : Nat} (hc : condCode op = some code) (x : Name) (a b : Expr) :
    writesIn (.sexp .bind (.atom (.name x)) (.sexp op a b)) = x :: (writesIn a ++ writesIn b) := by
  rw [writesIn, writesIn.eq_2]
  intro y hb _
  subst hb
  cases hc

theorem lowerE_atom_inv {ρ : Rho} {p : Prim} {k : Nat} {le : LE} (h : lowerE ρ (.atom p) k = some le) :
    le.instrs = [] ∧ le.k = k ∧ (le.reg.cls = 1 ∨ ∃ x, p = .name x ∧ ρ x = some le.reg) := by
  cases p with
  | bool _ | num _ =>
    simp only [lowerE, Option.some.injEq] at h
    subst h
    exact ⟨rfl, rfl, .inl rfl⟩
  | name x =>
    obtain ⟨r, hr, rfl⟩ := Option.map_eq_some_iff.mp h
    exact ⟨rfl, rfl, .inr ⟨x, rfl, hr⟩⟩

theorem lowerE_bind_inv {ρ : Rho} {x : Name} {r : Expr} {k : Nat} {le : LE} (hn : NotCond r)
    (h : lowerE ρ (.sexp .bind (.atom (.name x)) r) k = some le) :
    ∃ rx cr, ρ x = some rx ∧ lowerE ρ r k = some cr ∧
      le = ⟨cr.instrs ++ [⟨1, rx, rx, cr.reg⟩], rx, cr.k⟩ := by
  rw [lowerE.eq_7 ρ k x r hn.1 hn.2.1 hn.2.2] at h
  split at h
  · rename_i rx cr h1 h2; exact ⟨rx, cr, h1, h2, (Option.some.inj h).symm⟩
  · cases h

theorem lowerE_op {ρ : Rho} {o : Op} {code : Nat} {l r : Expr} {k : Nat} {cl cr : LE}
    (ho : pureOpcode o = some code) (hl : lowerE ρ l k = some cl) (hr : lowerE ρ r cl.k = some cr) :
    lowerE ρ (.sexp o l r) k =
      some ⟨cl.instrs ++ cr.instrs ++ [⟨code, vTmp cr.k, cl.reg, cr.reg⟩], vTmp cr.k, cr.k + 1⟩ := by
  rw [lowerE.eq_8 _ _ _ _ _ (fun x _ _ hb _ _ => by subst hb; cases ho) (fun x _ _ hb _ _ => by subst hb; cases ho)
    (fun x _ _ hb _ _ => by subst hb; cases ho) (fun x hb _ => by subst hb; cases ho), ho, hl]
  simp only [hr]

theorem lowerE_guard {ρ : Rho} {op : Op} {code : Nat} (hc : condCode op = some code) (x : Name) (a b : Expr)
    (k : Nat) :
    lowerE ρ (.sexp .bind (.atom (.name x)) (.sexp op a b)) k =
      match ρ x, lowerE ρ a k with
      | some rx, some ca =>
        match lowerE ρ b ca.k with
        | some cb => some ⟨ca.instrs ++ cb.instrs ++ [⟨code, rx, ca.reg, cb.reg⟩], rx, cb.k⟩
        | none => none
      | _, _ => none := by
  rcases condCode_cases hc with ⟨rfl, rfl⟩ | ⟨rfl, rfl⟩ | ⟨rfl, rfl⟩ <;> (rw [lowerE]; rfl)

theorem lowerE_guard_inv {ρ : Rho} {op : Op} {code : Nat} (hc : condCode op = some code) {x : Name} {a b : Expr}
    {k : Nat} {le : LE} (h : lowerE ρ (.sexp .bind (.atom (.name x)) (.sexp op a b)) k = some le) :
    ∃ rx ca cb, ρ x = some rx ∧ lowerE ρ a k = some ca ∧ lowerE ρ b ca.k = some cb ∧
      le = ⟨ca.instrs ++ cb.instrs ++ [⟨code, rx, ca.reg, cb.reg⟩], rx, cb.k⟩ := by
  rw [lowerE_guard hc] at h
  split at h
  · rename_i rx ca h1 h2
    split at h
    · rename_i cb h3; exact ⟨rx, ca, cb, h1, h2, h3, (Option.some.inj h).symm⟩
    · cases h
  · cases h

theorem lowerE_nonbind_inv {ρ : Rho} {o : Op} {l r : Expr} {k : Nat} {le : LE}
    (hne : ∀ x, o = .bind → l = .atom (.name x) → False)
    (h : lowerE ρ (.sexp o l r) k = some le) :
    ∃ code cl cr, pureOpcode o = some code ∧ lowerE ρ l k = some cl ∧ lowerE ρ r cl.k = some cr ∧
      le = ⟨cl.instrs ++ cr.instrs ++ [⟨code, vTmp cr.k, cl.reg, cr.reg⟩], vTmp cr.k, cr.k + 1⟩ := by
  rw [lowerE.eq_8 _ _ _ _ _ (fun x _ _ h1 h2 _ => hne x h1 h2) (fun x _ _ h1 h2 _ => hne x h1 h2)
    (fun x _ _ h1 h2 _ => hne x h1 h2) hne] at h
  split at h
  · rename_i code cl ho hl
    split at h
    · rename_i cr hr
      exact ⟨code, cl, cr, ho, hl, hr, (Option.some.inj h).symm⟩
    · cases h
  · cases h

theorem lowerE_sexp_cases {ρ : Rho} {o : Op} {l r : Expr} {k : Nat} {le : LE}
    (h : lowerE ρ (.sexp o l r) k = some le) :
    (∃ x rx cr, o = .bind ∧ l = .atom (.name x) ∧ ρ x = some rx ∧ lowerE ρ r k = some cr ∧
      le = ⟨cr.instrs ++ [⟨1, rx, rx, cr.reg⟩], rx, cr.k⟩) ∨
    (∃ x op a b code rx ca cb, o = .bind ∧ l = .atom (.name x) ∧ r = .sexp op a b ∧ condCode op = some code ∧
      ρ x = some rx ∧ lowerE ρ a k = some ca ∧ lowerE ρ b ca.k = some cb ∧
      le = ⟨ca.instrs ++ cb.instrs ++ [⟨code, rx, ca.reg, cb.reg⟩], rx, cb.k⟩) ∨
    (∃ code cl cr, pureOpcode o = some code ∧ lowerE ρ l k = some cl ∧ lowerE ρ r cl.k = some cr ∧
      le = ⟨cl.instrs ++ cr.instrs ++ [⟨code, vTmp cr.k, cl.reg, cr.reg⟩], vTmp cr.k, cr.k + 1⟩) := by
  by_cases hb : ∃ x, o = .bind ∧ l = .atom (.name x)
  · obtain ⟨x, rfl, rfl⟩ := hb
    rcases notCond_or r with hn | ⟨op, a, b, code, rfl, hc⟩
    · obtain ⟨rx, cr, h1, h2, h3⟩ := lowerE_bind_inv hn h
      exact .inl ⟨x, rx, cr, rfl, rfl, h1, h2, h3⟩
    · obtain ⟨rx, ca, cb, h1, h2, h3, h4⟩ := lowerE_guard_inv hc h
      exact .inr (.inl ⟨x, op, a, b, code, rx, ca, cb, rfl, rfl, rfl, hc, h1, h2, h3, h4⟩)
  · exact .inr (.inr (lowerE_nonbind_inv (fun x h1 h2 => hb ⟨x, h1, h2⟩) h))

theorem lowerE_op_inv {ρ : Rho} {o : Op} {l r : Expr} {k : Nat} {le : LE} {code : Nat}
    (ho : pureOpcode o = some code) (h : lowerE ρ (.sexp o l r) k = some le) :
    ∃ cl cr, lowerE ρ l k = some cl ∧ lowerE ρ r cl.k = some cr ∧
      le = ⟨cl.instrs ++ cr.instrs ++ [⟨code, vTmp cr.k, cl.reg, cr.reg⟩], vTmp cr.k, cr.k + 1⟩ := by
  obtain ⟨code', cl, cr, ho', hl, hr, e⟩ := lowerE_nonbind_inv (fun x hb _ => by subst hb; cases ho) h
  rw [ho] at ho'; cases ho'
  exact ⟨cl, cr, hl, hr, e⟩

theorem stmtOk2_bare {o : Op} {code : Nat} (ho : pureOpcode o = some code) (l r : Expr) :
    stmtOk2 (.sexp o l r) = valueE (.sexp o l r) := by
  rw [stmtOk2.eq_6 o l r (fun x _ _ hb _ _ => by subst hb; cases ho) (fun x _ _ hb _ _ => by subst hb; cases ho)
    (fun x _ _ hb _ _ => by subst hb; cases ho) (fun x hb _ => by subst hb; cases ho), ho]
  rfl

theorem stmtOk2_cases {e : Expr} (h : stmtOk2 e = true) :
    e = .none ∨ (∃ o l r code, e = .sexp o l r ∧ pureOpcode o = some code ∧ valueE (.sexp o l r) = true) ∨
    ∃ x rhs, e = .sexp .bind (.atom (.name x)) rhs ∧
      ((∃ op a b code, rhs = .sexp op a b ∧ condCode op = some code ∧ valueE a = true ∧ valueE b = true ∧
          noHazard a b = true) ∨ valueE rhs = true) := by
  unfold stmtOk2 at h
  split at h
  case h_1 => exact .inl rfl
  case h_2 | h_3 | h_4 =>
    simp only [Bool.and_eq_true] at h
    exact .inr (.inr ⟨_, _, rfl, .inl ⟨_, _, _, _, rfl, rfl, h.1.1, h.1.2, h.2⟩⟩)
  case h_5 => exact .inr (.inr ⟨_, _, rfl, .inr h⟩)
  case h_6 o l r _ _ _ _ =>
    rw [Bool.and_eq_true, Option.isSome_iff_exists] at h
    obtain ⟨⟨code, ho⟩, hv⟩ := h
    exact .inr (.inl ⟨o, l, r, code, rfl, ho, hv⟩)
  case h_7 => cases h

theorem forall_mem_node {α : Type} {P : α → Prop} {a b : List α} {i : α} (h : ∀ j ∈ a ++ b ++ [i], P j) :
    (∀ j ∈ a, P j) ∧ (∀ j ∈ b, P j) ∧ P i := by
  rwa [List.forall_mem_append, List.forall_mem_append, List.forall_mem_singleton, and_assoc] at h

theorem forall_mem_node_of {α : Type} {P : α → Prop} {a b : List α} {i : α} (ha : ∀ j ∈ a, P j)
    (hb : ∀ j ∈ b, P j) (hi : P i) : ∀ j ∈ a ++ b ++ [i], P j := by
  rw [List.forall_mem_append, List.forall_mem_append, List.forall_mem_singleton]
  exact ⟨⟨ha, hb⟩, hi⟩

theorem setLastRet_snoc (a : List VInstr) (i : VInstr) (r : VReg) :
    setLastRet (a ++ [i]) r = a ++ [{ i with ret := r }] := by
  simp [setLastRet]

/-- a statement that is a node is lowered as the expression it is, from temporary 0 -/
theorem lowerStmt_node (ρ : Rho) (o : Op) (l r : Expr) :
    lowerStmt ρ (.sexp o l r) = (lowerE ρ (.sexp o l r) 0).map (·.instrs) := by
  by_cases hbind : ∃ x, o = .bind ∧ l = .atom (.name x)
  · obtain ⟨x, rfl, rfl⟩ := hbind
    rcases notCond_or r with hn | ⟨op, a, b, code, rfl, hc⟩
    · rw [lowerStmt.eq_5 ρ x r hn.1 hn.2.1 hn.2.2, lowerE.eq_7 ρ 0 x r hn.1 hn.2.1 hn.2.2]
      cases ρ x <;> cases lowerE ρ r 0 <;> rfl
    · have e : lowerStmt ρ (.sexp .bind (.atom (.name x)) (.sexp op a b)) = lowerCond ρ code x a b := by
        rcases condCode_cases hc with ⟨rfl, rfl⟩ | ⟨rfl, rfl⟩ | ⟨rfl, rfl⟩ <;> rfl
      rw [e, lowerE_guard hc, lowerCond]
      cases ρ x with
      | none => rfl
      | some rx =>
        cases lowerE ρ a 0 with
        | none => rfl
        | some ca =>
          simp only []
          cases lowerE ρ b ca.k <;> rfl
  · have hne : ∀ x, o = .bind → l = .atom (.name x) → False := fun x h1 h2 => hbind ⟨x, h1, h2⟩
    exact lowerStmt.eq_6 ρ o l r (fun x _ _ h1 h2 _ => hne x h1 h2) (fun x _ _ h1 h2 _ => hne x h1 h2)
      (fun x _ _ h1 h2 _ => hne x h1 h2) hne

/-- induction on expressions that also gives the hypothesis for the two operands of a right operand that is
itself a node (the operands of the conditional / ewma of a guarded bind) -/
theorem Expr.ind2 {P : Expr → Prop} (atom : ∀ p, P (.atom p)) (cmd : ∀ c, P (.cmd c)) (none : P .none)
    (sexp : ∀ o l r, P l → P r → (∀ op a b, r = .sexp op a b → P a ∧ P b) → P (.sexp o l r)) : ∀ e, P e := by
  have key : ∀ e, P e ∧ (∀ op a b, e = .sexp op a b → P a ∧ P b) := by
    intro e
    induction e with
    | atom p => exact ⟨atom p, fun _ _ _ h => by cases h⟩
    | cmd c => exact ⟨cmd c, fun _ _ _ h => by cases h⟩
    | none => exact ⟨none, fun _ _ _ h => by cases h⟩
    | sexp o l r ihl ihr =>
      refine ⟨sexp o l r ihl.1 ihr.1 ihr.2, ?_⟩
      intro op a b h
      cases h
      exact ⟨ihl.1, ihr.1⟩
  exact fun e => (key e).1

/-- the assigned name is not a primitive (the compiler rejects binding to a primitive register) -/
def writesOkE : Expr → Bool
  | .sexp .bind (.atom (.name x)) _ => (Sem.primIndex x).isNone
  | _ => true

/-- the assigned name is not the event flag (user names never start with `__`; the desugared
commands assign `__shouldReport` / `__shouldContinue` only) -/
def noFlagWriteE : Expr → Bool
  | .sexp .bind (.atom (.name x)) _ => decide (x ≠ "__eventFlag".toList)
  | _ => true

/-- no body statement assigns a primitive or the event flag. Only the targets of *statements* are tested here:
the targets of nested binds are ordinary variables by `valueE` (`valueE_writes_ok`), so for a program of the
fragment `InOracle` this constrains every assignment. -/
def WritesOk (evs : List Event) : Bool :=
  evs.all fun ev => ev.body.all fun e => writesOkE e && noFlagWriteE e

/-- the libccp program made of lowered code, installed under uid `u` -/
def mkProg (u : Nat) (lp : LP) : Program :=
  { uid := u, exprs := lp.exprs, instrs := lp.instrs, numToReturn := numToReturn lp.instrs }

end Portus.Lang.Frag
