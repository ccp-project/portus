import PortusModel.Lemmas.TextEval
import PortusModel.Lemmas.Pipeline
import PortusModel.Lemmas.Parser
/-!
# C13 — the scope returned for an accepted program is the slot assignment libccp uses

The property is `compile_scope_slots`, with `instrs_use_scope`: the emitted instructions use that assignment.
Both are about accepted programs whose declared names are distinct from each other and from the built-in
names (`hnd`, `hfresh`); `locals_distinct`, `compile_keeps_slots`, `overrides` and `declareAll_no_panic`
need no such assumption.
-/
namespace Portus.C13
open Portus Portus.Lang

/-- The ABI shared with libccp: measurement primitives `0..14`, implicit registers `0..5`. -/
def abiTable : List (String × Reg) :=
  [ ("Ack.bytes_acked",        .primitive 0  (.num none)),
    ("Ack.bytes_misordered",   .primitive 1  (.num none)),
    ("Ack.ecn_bytes",          .primitive 2  (.num none)),
    ("Ack.ecn_packets",        .primitive 3  (.num none)),
    ("Ack.lost_pkts_sample",   .primitive 4  (.num none)),
    ("Ack.now",                .primitive 5  (.num none)),
    ("Ack.packets_acked",      .primitive 6  (.num none)),
    ("Ack.packets_misordered", .primitive 7  (.num none)),
    ("Flow.bytes_in_flight",   .primitive 8  (.num none)),
    ("Flow.bytes_pending",     .primitive 9  (.num none)),
    ("Flow.packets_in_flight", .primitive 10 (.num none)),
    ("Flow.rate_incoming",     .primitive 11 (.num none)),
    ("Flow.rate_outgoing",     .primitive 12 (.num none)),
    ("Flow.rtt_sample_us",     .primitive 13 (.num none)),
    ("Flow.was_timeout",       .primitive 14 (.bool none)),
    ("__eventFlag",            .implicit 0 (.bool none)),
    ("__shouldContinue",       .implicit 1 (.bool none)),
    ("__shouldReport",         .implicit 2 (.bool none)),
    ("Micros",                 .implicit 3 (.num none)),
    ("Cwnd",                   .implicit 4 (.num none)),
    ("Rate",                   .implicit 5 (.num none)) ]

theorem abiTable_positions :
    abiTable =
      (primitiveNames.zipIdx.map fun p => (p.1.1, Reg.primitive p.2 p.1.2)) ++
      (implicitNames.zipIdx.map fun p => (p.1.1, Reg.implicit p.2 p.1.2)) := by
  rfl

/-- the ABI table and `builtinTable` (the table of `Scope::new()`, sorted by name) have the same entries -/
theorem abiTable_builtinTable : (∀ p ∈ abiTable, p ∈ builtinTable) ∧ ∀ p ∈ builtinTable, p ∈ abiTable := by
  decide +kernel

theorem builtin_abi (uid : Nat) :
    (∀ p ∈ abiTable, (Scope.new uid).get p.1.toList = some p.2) ∧ (Scope.new uid).named.length = 21 :=
  ⟨fun p hp => Scope.new_get_of_mem uid (abiTable_builtinTable.1 p hp), by rw [Scope.new_named]; rfl⟩

theorem builtin_only (uid : Nat) (n : Name) (r : Reg) (h : (Scope.new uid).get n = some r) :
    ∃ p ∈ abiTable, p.1.toList = n ∧ p.2 = r := by
  obtain ⟨s, hs, rfl⟩ := Scope.new_get_mem uid h
  exact ⟨(s, r), abiTable_builtinTable.2 _ hs, rfl, rfl⟩

example : (Scope.new 7).get "Flow.was_timeout".toList = some (.primitive 14 (.bool none)) :=
  (builtin_abi 7).1 ("Flow.was_timeout", _) (by decide)

/-! ## The register file (no sortedness assumption) -/

theorem strLt_irrefl (s : List Char) : strLt s s = false := Lang.strLt_irrefl s

theorem regGet_regInsert_self (n : Name) (r : Reg) (l : List (Name × Reg)) :
    regGet n (regInsert n r l) = some r := Lang.regGet_regInsert_self n r l

theorem regGet_regInsert_ne {m n : Name} (h : m ≠ n) (r : Reg) (l : List (Name × Reg)) :
    regGet m (regInsert n r l) = regGet m l := Lang.regGet_regInsert_ne h r l

theorem regGet_regSet_self (n : Name) (r : Reg) (l : List (Name × Reg)) :
    regGet n (regSet n r l) = if (regGet n l).isSome then some r else none := Lang.regGet_regSet_self n r l

theorem regGet_regSet_ne {m n : Name} (h : m ≠ n) (r : Reg) (l : List (Name × Reg)) :
    regGet m (regSet n r l) = regGet m l := Lang.regGet_regSet_ne h r l

/-- shadowing: inserting a name that is already there hides the old entry -/
example : regGet "a".toList (regInsert "a".toList (.immNum 2) [("a".toList, .immNum 1)]) = some (.immNum 2) := by
  decide

/-! ## The declaration pass

`reportsOf ds`, `controlsOf ds` (`Lemmas/ScopeLemmas`) are the two lists `declareAll` folds over; `defs` puts the
`Report`-block entries first in `ds`. -/

example (ds : List Decl) : reportsOf ds = ds.filter fun d => "Report.".toList.isPrefixOf d.var := rfl
example (ds : List Decl) : controlsOf ds = ds.filter fun d => !("Report.".toList.isPrefixOf d.var) := rfl

/-- Report variables occupy the report slots `0..n-1` in declaration order, control variables the control slots
`0..m-1`; the built-ins are untouched and nothing else is bound. -/
theorem report_slots (uid : Nat) (ds : List Decl) (sc : Scope)
    (hnd : (ds.map (·.var)).Nodup)
    (hfresh : ∀ d ∈ ds, (Scope.new uid).get d.var = none)
    (h : declareAll (Scope.new uid) ds = .ok sc) :
    (∀ k (hk : k < (reportsOf ds).length),
      sc.get (reportsOf ds)[k].var = some (.report k (reportsOf ds)[k].init (reportsOf ds)[k].vol)) ∧
    (∀ k (hk : k < (controlsOf ds).length),
      sc.get (controlsOf ds)[k].var = some (.control k (controlsOf ds)[k].init (controlsOf ds)[k].vol)) ∧
    (sc.numPerm = (reportsOf ds).length ∧ sc.numControl = (controlsOf ds).length ∧ sc.numLocal = 0 ∧
      sc.uid = uid) ∧
    (∀ n r, (Scope.new uid).get n = some r → sc.get n = some r) ∧
    (∀ n r, sc.get n = some r → (Scope.new uid).get n = some r ∨ ∃ d ∈ ds, d.var = n) := by
  have other := fun n => declareAll_get_of_not_mem (n := n) ⟨rfl, rfl⟩ h
  cases (declareAll_ok ⟨rfl, rfl⟩ h).2.2
  have sub : ∀ {p : Decl → Bool}, ((ds.filter p).map (·.var)).Nodup := Assoc.nodup_keys_filter ds _ hnd
  refine ⟨fun k hk => ?_, fun k hk => ?_, ⟨rfl, rfl, rfl, rfl⟩, fun n r hg => ?_, fun n r hg => ?_⟩
  · exact (regGet_insertDecls_of_not_mem (fun c hc => (report_control_ne (List.getElem_mem hk) hc).symm) _ _).trans
      ((regGet_insertDecls_getElem sub 0 _ k hk).trans (by rw [Nat.zero_add]; rfl))
  · exact (regGet_insertDecls_getElem sub 0 _ k hk).trans (by rw [Nat.zero_add]; rfl)
  · rw [other n (fun d hd e => by rw [← e, hfresh d hd] at hg; cases hg), hg]
  · by_cases hx : ∃ d ∈ ds, d.var = n
    · exact .inr hx
    · exact .inl (by rw [← other n (fun d hd e => hx ⟨d, hd, e⟩), hg])

/-- The slot assignment is a bijection: so a report of `numPerm` values contains every report variable exactly
once. -/
theorem report_slots_bijective (uid : Nat) (ds : List Decl) (sc : Scope)
    (hnd : (ds.map (·.var)).Nodup)
    (hfresh : ∀ d ∈ ds, (Scope.new uid).get d.var = none)
    (h : declareAll (Scope.new uid) ds = .ok sc) :
    (∀ i j (hi : i < (reportsOf ds).length) (hj : j < (reportsOf ds).length),
      (reportsOf ds)[i].var = (reportsOf ds)[j].var → i = j) ∧
    (∀ n i t v, sc.get n = some (.report i t v) →
      ∃ hi : i < (reportsOf ds).length,
        n = (reportsOf ds)[i].var ∧ t = (reportsOf ds)[i].init ∧ v = (reportsOf ds)[i].vol) ∧
    (∀ i j (hi : i < (controlsOf ds).length) (hj : j < (controlsOf ds).length),
      (controlsOf ds)[i].var = (controlsOf ds)[j].var → i = j) ∧
    (∀ n i t v, sc.get n = some (.control i t v) →
      ∃ hi : i < (controlsOf ds).length,
        n = (controlsOf ds)[i].var ∧ t = (controlsOf ds)[i].init ∧ v = (controlsOf ds)[i].vol) ∧
    (reportsOf ds).length ≤ 255 ∧ (controlsOf ds).length ≤ 255 := by
  obtain ⟨ha, hb, _, _, he⟩ := report_slots uid ds sc hnd hfresh h
  refine ⟨?_, ?_, ?_, ?_, (declareAll_ok ⟨rfl, rfl⟩ h).1, (declareAll_ok ⟨rfl, rfl⟩ h).2.1⟩
  · intro i j hi hj e
    have h1 := ha i hi
    rw [e, ha j hj] at h1
    cases h1
    rfl
  · intro n i t v hg
    rcases he n _ hg with hb' | ⟨d, hd, rfl⟩
    · have := Scope.new_get_builtin hb'; cases this
    · rcases mem_reportsOf_or_controlsOf hd with ⟨k, hk, rfl⟩ | ⟨k, hk, rfl⟩
      · rw [ha k hk] at hg
        cases hg
        exact ⟨hk, rfl, rfl, rfl⟩
      · rw [hb k hk] at hg; cases hg
  · intro i j hi hj e
    have h1 := hb i hi
    rw [e, hb j hj] at h1
    cases h1
    rfl
  · intro n i t v hg
    rcases he n _ hg with hb' | ⟨d, hd, rfl⟩
    · have := Scope.new_get_builtin hb'; cases this
    · rcases mem_reportsOf_or_controlsOf hd with ⟨k, hk, rfl⟩ | ⟨k, hk, rfl⟩
      · rw [ha k hk] at hg; cases hg
      · rw [hb k hk] at hg
        cases hg
        exact ⟨hk, rfl, rfl, rfl⟩

/-- the length guard makes the `u8` counters safe -/
theorem declareAll_no_panic (ds : List Decl) (sc : Scope) (h0 : sc.numPerm = 0 ∧ sc.numControl = 0) :
    declareAll sc ds ≠ .panic :=
  declareAll_ne_panic sc ds h0

theorem declareAll_ok_iff (ds : List Decl) (sc : Scope) (h0 : sc.numPerm = 0 ∧ sc.numControl = 0) :
    (∃ sc', declareAll sc ds = .ok sc') ↔ (reportsOf ds).length ≤ 255 ∧ (controlsOf ds).length ≤ 255 := by
  rw [declareAll_eq sc ds h0]
  split
  · rename_i hg; exact ⟨fun ⟨_, h⟩ => (nomatch h), fun h => absurd hg (by omega)⟩
  · exact ⟨fun _ => by omega, fun _ => ⟨_, rfl⟩⟩

/-! ### Non-vacuity -/

def exDecls : List Decl :=
  [ ⟨true, "Report.foo".toList, .num (some 0)⟩, ⟨false, "Report.acked".toList, .num (some 0)⟩,
    ⟨false, "bar".toList, .num (some 5)⟩ ]

def exSrc : List Char :=
  "(def (Report (volatile foo 0) (acked 0)) (bar 5)) (when true (:= x 1) (:= Report.foo (+ x bar)) (report))".toList

theorem exSrc_eval :
    (parseSource exSrc).map (·.1) = some exDecls ∧
    (match compile 3 exSrc [("bar".toList, 9)] with
      | .ok (_, sc) => sc.get "x".toList
      | _ => none) = some (.local 0 (.num (some 1))) := by decide_text [exSrc]

theorem exSrc_parse : (parseSource exSrc).map (·.1) = some exDecls := exSrc_eval.1
theorem exDecls_nodup : (exDecls.map (·.var)).Nodup := by decide
theorem exDecls_fresh (uid : Nat) : ∀ d ∈ exDecls, (Scope.new uid).get d.var = none := by
  intro d hd
  simp only [exDecls, List.mem_cons, List.not_mem_nil, or_false] at hd
  rcases hd with rfl | rfl | rfl <;> exact Scope.new_get_eq_none uid (by decide)
theorem exDecls_accepted : (declareAll (Scope.new 3) exDecls).isOk = true := by decide +kernel
example : ∃ sc, declareAll (Scope.new 3) exDecls = .ok sc ∧
    sc.get "Report.acked".toList = some (.report 1 (.num (some 0)) false) ∧
    sc.get "bar".toList = some (.control 0 (.num (some 5)) false) := by
  cases h : declareAll (Scope.new 3) exDecls with
  | ok sc =>
    obtain ⟨ha, hb, _⟩ := report_slots 3 exDecls sc exDecls_nodup (exDecls_fresh 3) h
    exact ⟨sc, rfl, ha 1 (by decide), hb 0 (by decide)⟩
  | err => have := exDecls_accepted; rw [h] at this; cases this
  | panic => have := exDecls_accepted; rw [h] at this; cases this

/-! ## The compile-time overrides -/

/-- `overrideSpec upd n` (`Lemmas/ScopeLemmas`): the **last** entry for `n` in `upd` counts; `overrides_cases`
spells the cases out. -/
theorem overrides (sc : Scope) (upd : List (Name × Nat)) :
    (∀ n, (applyUpdates sc upd).get n = overrideSpec upd n (sc.get n)) ∧
    (applyUpdates sc upd).uid = sc.uid ∧ (applyUpdates sc upd).numPerm = sc.numPerm ∧
    (applyUpdates sc upd).numControl = sc.numControl ∧ (applyUpdates sc upd).numLocal = sc.numLocal ∧
    (applyUpdates sc upd).tmp = sc.tmp :=
  ⟨applyUpdates_get sc upd, applyUpdates_counters sc upd⟩

theorem lastVal_spec {n : Name} {upd : List (Name × Nat)} {v : Nat} :
    lastVal n upd = some v ↔ ∃ pre post, upd = pre ++ (n, v) :: post ∧ ∀ p ∈ post, p.1 ≠ n :=
  lastVal_eq_some_iff

theorem overrides_cases (sc : Scope) (upd : List (Name × Nat)) (n : Name) :
    -- not mentioned: unchanged
    ((∀ p ∈ upd, p.1 ≠ n) → (applyUpdates sc upd).get n = sc.get n) ∧
    -- unbound: stays unbound
    (sc.get n = none → (applyUpdates sc upd).get n = none) ∧
    (∀ v, lastVal n upd = some v →
      (∀ i t vol, sc.get n = some (.report i t vol) →
        (applyUpdates sc upd).get n = some (.report i (.num (some v)) vol)) ∧
      (∀ i t vol, sc.get n = some (.control i t vol) →
        (applyUpdates sc upd).get n = some (.control i (.num (some v)) vol)) ∧
      (∀ i t, sc.get n = some (.local i t) →
        (applyUpdates sc upd).get n = some (.local i (.num (some v))))) ∧
    -- primitive / implicit registers are never changed
    (∀ i t, sc.get n = some (.primitive i t) → (applyUpdates sc upd).get n = some (.primitive i t)) ∧
    (∀ i t, sc.get n = some (.implicit i t) → (applyUpdates sc upd).get n = some (.implicit i t)) := by
  rw [applyUpdates_get]
  unfold overrideSpec
  refine ⟨?_, ?_, ?_, ?_, ?_⟩
  · intro h; rw [lastVal_eq_none_iff.mpr h]
  · intro h; rw [h]; cases lastVal n upd <;> rfl
  · intro v hv
    rw [hv]
    refine ⟨?_, ?_, ?_⟩ <;> intros <;> simp only [*, Option.map_some] <;> rfl
  · intro i t h; rw [h]; cases lastVal n upd <;> rfl
  · intro i t h; rw [h]; cases lastVal n upd <;> rfl

example : (applyUpdates ⟨0, [("a".toList, .control 0 (.num (some 1)) false), ("b".toList, .primitive 3 .none)], 1, 0, 0, []⟩
    [("a".toList, 7), ("b".toList, 8), ("c".toList, 9), ("a".toList, 10)]).named =
    [("a".toList, .control 0 (.num (some 10)) false), ("b".toList, .primitive 3 .none)] := by decide

/-! ## The compiler

`LocalsInv` is in `Lemmas/ScopeLemmas`. Shadowing is not a problem: `compileAtom` binds a local only at a name for
which `get` is `none`, and `regInsert` would put a new entry in front of an older one of the same name anyway. -/

theorem localsInv_declareAll {uid : Nat} {ds : List Decl} {sc : Scope}
    (h : declareAll (Scope.new uid) ds = .ok sc) : LocalsInv sc := by
  have h1 := declareAll_all (P := fun r => r.isLocal = false) ⟨rfl, rfl⟩ h (fun _ _ _ => ⟨rfl, rfl⟩) fun n r hg => by
    have := Scope.new_get_builtin hg
    cases r <;> first | rfl | cases this
  cases (declareAll_ok ⟨rfl, rfl⟩ h).2.2
  refine ⟨?_, ?_, Nat.zero_le _⟩
  · intro n i t hg; cases h1 n _ hg
  · intro n m i t u hg; cases h1 n _ hg

theorem localsInv_compileAtom {p : Prim} {sc : Scope} {c : CE} (hi : LocalsInv sc)
    (h : compileAtom p sc = .ok c) : LocalsInv c.sc :=
  (Reach.of_compileAtom h).localsInv hi

theorem localsInv_combine {o : Op} {is : List Instr} {left right : Reg} {sc : Scope} {c : CE}
    (hi : LocalsInv sc) (h : combine o is left right sc = .ok c) : LocalsInv c.sc :=
  (Reach.of_combine h).localsInv hi

theorem localsInv_compileExpr {e : Expr} {sc : Scope} {c : CE} (hi : LocalsInv sc)
    (h : compileExpr e sc = .ok c) : LocalsInv c.sc :=
  (Reach.of_compileExpr h).localsInv hi

theorem localsInv_compileFlag {flag : Expr} {sc sc' : Scope} {is : List Instr} (hi : LocalsInv sc)
    (h : compileFlag flag sc = .ok (is, sc')) : LocalsInv sc' :=
  (Reach.of_compileFlag h).localsInv hi

theorem localsInv_compileBody {body : List Expr} {sc sc' : Scope} {is : List Instr} (hi : LocalsInv sc)
    (h : compileBody body sc = .ok (is, sc')) : LocalsInv sc' :=
  (Reach.of_compileBody h).localsInv hi

theorem localsInv_compileEvents {evs : List Event} {idx : Nat} {sc : Scope} {cp : CP} (hi : LocalsInv sc)
    (h : compileEvents evs idx sc = .ok cp) : LocalsInv cp.sc :=
  (Reach.of_compileEvents h).localsInv hi

theorem locals_distinct {uid : Nat} {src : List Char} {upd : List (Name × Nat)} {bin : Bin} {sc : Scope}
    (h : compile uid src upd = .ok (bin, sc)) :
    (∀ n i t, sc.get n = some (.local i t) → i < sc.numLocal) ∧
    (∀ n m i t u, sc.get n = some (.local i t) → sc.get m = some (.local i u) → n = m) ∧
    sc.numLocal ≤ 255 := by
  obtain ⟨ds, evs, sc0, _, h0, hc⟩ := compile_ok h
  have hi := (Reach.of_compileProg hc).localsInv ((applyUpdates_reach sc0 upd).localsInv (localsInv_declareAll h0))
  exact ⟨hi.bound, hi.inj, hi.le⟩

/-- Slots survive compilation, from any scope (`Reg.slot` erases the recorded type of report / control / local
registers only: primitive and implicit registers do not change at all). -/
theorem compile_keeps_slots {evs : List Event} {sc sc' : Scope} {bin : Bin}
    (h : compileProg evs sc = .ok (bin, sc')) :
    (∀ n r, sc.get n = some r → ∃ r', sc'.get n = some r' ∧ r'.slot = r.slot) ∧
    (∀ n r', sc'.get n = some r' →
      (∃ r, sc.get n = some r ∧ r'.slot = r.slot) ∨ (sc.get n = none ∧ ∃ i t, r' = .local i t)) ∧
    sc'.uid = sc.uid ∧ sc'.numPerm = sc.numPerm ∧ sc'.numControl = sc.numControl ∧
    sc.numLocal ≤ sc'.numLocal := by
  have hr := Reach.of_compileProg h
  refine ⟨fun n r hg => hr.fwd hg, fun n r' hg => ?_, hr.counters⟩
  rcases hr.bwd hg with h1 | ⟨h1, h2⟩
  · exact Or.inl h1
  · exact Or.inr ⟨h1, Reg.isLocal_iff.mp h2⟩

theorem compile_keeps_slots_cases {evs : List Event} {sc sc' : Scope} {bin : Bin}
    (h : compileProg evs sc = .ok (bin, sc')) (n : Name) :
    (∀ i t v, sc.get n = some (.report i t v) → ∃ t', sc'.get n = some (.report i t' v)) ∧
    (∀ i t v, sc.get n = some (.control i t v) → ∃ t', sc'.get n = some (.control i t' v)) ∧
    (∀ i t, sc.get n = some (.local i t) → ∃ t', sc'.get n = some (.local i t')) ∧
    (∀ i t, sc.get n = some (.primitive i t) → sc'.get n = some (.primitive i t)) ∧
    (∀ i t, sc.get n = some (.implicit i t) → sc'.get n = some (.implicit i t)) := by
  have hf : ∀ r, sc.get n = some r → ∃ r' : Reg, sc'.get n = some ((r.setTy r'.getType).getD r) := by
    intro r hg
    obtain ⟨r', h1, h2⟩ := (compile_keeps_slots h).1 n r hg
    exact ⟨r', by rw [← Reg.eq_of_slot h2]; exact h1⟩
  exact ⟨fun i t v hg => (hf _ hg).elim fun r' h => ⟨r'.getType, h⟩,
    fun i t v hg => (hf _ hg).elim fun r' h => ⟨r'.getType, h⟩,
    fun i t hg => (hf _ hg).elim fun r' h => ⟨r'.getType, h⟩,
    fun i t hg => (hf _ hg).elim fun _ h => h, fun i t hg => (hf _ hg).elim fun _ h => h⟩

/-- Recorded types survive too. `update_type` in the `Bind` arm is applied to the name stored in the recorded type
of the left operand; under `NameInv` (in particular if no recorded type is a name, as after the declaration pass
and the overrides) that is a local. This is the use of `Step` with `F := True`. -/
theorem compile_keeps_nonlocals {evs : List Event} {sc sc' : Scope} {bin : Bin}
    (hn : NameInv sc) (h : compileProg evs sc = .ok (bin, sc')) :
    (∀ n r, sc.get n = some r → r.isLocal = false → sc'.get n = some r) ∧ NameInv sc' := by
  have hr := compileProg_reach (F := True) (fun _ => hn) h
  exact ⟨fun n r hg hl => hr.keeps_nonLocal trivial hg hl, hr.nameInv trivial hn⟩

/-! ### The returned scope -/

def overrideTy (upd : List (Name × Nat)) (n : Name) (t : Ty) : Ty :=
  match lastVal n upd with
  | none => t
  | some v => .num (some v)

theorem overrideSpec_report (upd : List (Name × Nat)) (n : Name) (i : Nat) (t : Ty) (v : Bool) :
    overrideSpec upd n (some (.report i t v)) = some (.report i (overrideTy upd n t) v) := by
  unfold overrideSpec overrideTy; cases lastVal n upd <;> rfl

theorem overrideSpec_control (upd : List (Name × Nat)) (n : Name) (i : Nat) (t : Ty) (v : Bool) :
    overrideSpec upd n (some (.control i t v)) = some (.control i (overrideTy upd n t) v) := by
  unfold overrideSpec overrideTy; cases lastVal n upd <;> rfl

theorem overrideSpec_builtin (upd : List (Name × Nat)) (n : Name) {r : Reg} (h : isBuiltinReg r = true) :
    overrideSpec upd n (some r) = some r := by
  unfold overrideSpec
  cases lastVal n upd with
  | none => rfl
  | some v => cases r <;> first | rfl | cases h

/-- no recorded type is a name when compilation starts: the parser delivers none, the built-ins have none,
and an override records a number -/
theorem start_noName {uid : Nat} {src : List Char} {ds : List Decl} {evs : List Event} {sc0 : Scope}
    (hp : parseSource src = some (ds, evs)) (h0 : declareAll (Scope.new uid) ds = .ok sc0)
    (upd : List (Name × Nat)) :
    ∀ n r, (applyUpdates sc0 upd).get n = some r → ∀ s, r.getType ≠ .name s := by
  refine applyUpdates_all (P := fun r => ∀ s, r.getType ≠ .name s) ?_
    (declareAll_all (P := fun r => ∀ s, r.getType ≠ .name s) ⟨rfl, rfl⟩ h0 ?_ ?_)
  · intro _ v r _ hr s
    cases r <;> first | exact hr s | (intro e; cases e)
  · exact fun d hd' i => ⟨(parseSource_decls hp d hd').1, (parseSource_decls hp d hd').1⟩
  · exact fun n r hg => isBuiltinReg_not_name (Scope.new_get_builtin hg)

/-- **C13, the returned scope.** For every accepted program whose declared names are distinct from
each other and from the built-in names, in the scope returned by `compile`:

1. the report variables sit in the report slots `0..n-1` in declaration order, each with its declared
   volatility and its declared initial value, or the overriding value if `upd` names it;
2. likewise the control variables in the control slots `0..m-1`;
3. `numPerm = n ≤ 255`, `numControl = m ≤ 255`, the uid is the caller's;
4. the built-in names are bound as in `abiTable`;
5. distinct local names have distinct local indices, all below `numLocal ≤ 255`;
6. nothing else is bound: every binding is a built-in one, the report (control) register of the
   declaration at its index — so the assignment is a bijection onto `0..n-1` (`0..m-1`) — or a local
   at a name that is neither built-in nor declared. -/
theorem compile_scope_slots (uid : Nat) (src : List Char) (upd : List (Name × Nat))
    (ds : List Decl) (evs : List Event) (bin : Bin) (sc : Scope)
    (hp : parseSource src = some (ds, evs))
    (hnd : (ds.map (·.var)).Nodup)
    (hfresh : ∀ d ∈ ds, (Scope.new uid).get d.var = none)
    (h : compile uid src upd = .ok (bin, sc)) :
    (∀ k (hk : k < (reportsOf ds).length),
      sc.get (reportsOf ds)[k].var =
        some (.report k (overrideTy upd (reportsOf ds)[k].var (reportsOf ds)[k].init) (reportsOf ds)[k].vol)) ∧
    (∀ k (hk : k < (controlsOf ds).length),
      sc.get (controlsOf ds)[k].var =
        some (.control k (overrideTy upd (controlsOf ds)[k].var (controlsOf ds)[k].init) (controlsOf ds)[k].vol)) ∧
    (sc.numPerm = (reportsOf ds).length ∧ sc.numControl = (controlsOf ds).length ∧ sc.uid = uid ∧
      (reportsOf ds).length ≤ 255 ∧ (controlsOf ds).length ≤ 255) ∧
    (∀ p ∈ abiTable, sc.get p.1.toList = some p.2) ∧
    ((∀ n i t, sc.get n = some (.local i t) → i < sc.numLocal) ∧
      (∀ n m i t u, sc.get n = some (.local i t) → sc.get m = some (.local i u) → n = m) ∧
      sc.numLocal ≤ 255) ∧
    (∀ n r, sc.get n = some r →
      (∃ p ∈ abiTable, p.1.toList = n ∧ p.2 = r) ∨
      (∃ k, ∃ hk : k < (reportsOf ds).length, n = (reportsOf ds)[k].var ∧
        r = .report k (overrideTy upd n (reportsOf ds)[k].init) (reportsOf ds)[k].vol) ∨
      (∃ k, ∃ hk : k < (controlsOf ds).length, n = (controlsOf ds)[k].var ∧
        r = .control k (overrideTy upd n (controlsOf ds)[k].init) (controlsOf ds)[k].vol) ∨
      (∃ i t, r = .local i t ∧ (Scope.new uid).get n = none ∧ ∀ d ∈ ds, d.var ≠ n)) := by
  obtain ⟨ds', evs', sc0, hp', h0, hc⟩ := compile_ok h
  cases hp.symm.trans hp'
  obtain ⟨ha, hb, ⟨c1, c2, c3, c4⟩, hd, he⟩ := report_slots uid ds sc0 hnd hfresh h0
  have hn : NameInv (applyUpdates sc0 upd) := fun n r hg => RegOk.of_not_name (start_noName hp h0 upd n r hg)
  obtain ⟨keep, _⟩ := compile_keeps_nonlocals hn hc
  have hr := compileProg_reach (F := True) (fun _ => hn) hc
  obtain ⟨u1, u2, u3, _⟩ := hr.counters
  obtain ⟨v1, v2, v3, _, _⟩ := applyUpdates_counters sc0 upd
  -- the three classes
  have repK : ∀ k (hk : k < (reportsOf ds).length), sc.get (reportsOf ds)[k].var =
      some (.report k (overrideTy upd (reportsOf ds)[k].var (reportsOf ds)[k].init) (reportsOf ds)[k].vol) := by
    intro k hk
    refine keep _ _ ?_ rfl
    rw [applyUpdates_get, ha k hk, overrideSpec_report]
  have ctlK : ∀ k (hk : k < (controlsOf ds).length), sc.get (controlsOf ds)[k].var =
      some (.control k (overrideTy upd (controlsOf ds)[k].var (controlsOf ds)[k].init) (controlsOf ds)[k].vol) := by
    intro k hk
    refine keep _ _ ?_ rfl
    rw [applyUpdates_get, hb k hk, overrideSpec_control]
  have builtinK : ∀ n r, (Scope.new uid).get n = some r → sc.get n = some r := by
    intro n r hg
    have hb' := Scope.new_get_builtin hg
    refine keep _ _ ?_ (by cases r <;> first | rfl | cases hb')
    rw [applyUpdates_get, hd n r hg, overrideSpec_builtin upd n hb']
  refine ⟨repK, ctlK, ⟨by omega, by omega, by rw [u1, v1, c4], (declareAll_ok ⟨rfl, rfl⟩ h0).1, (declareAll_ok ⟨rfl, rfl⟩ h0).2.1⟩,
    fun p hp => builtinK _ _ ((builtin_abi uid).1 p hp), locals_distinct h, ?_⟩
  intro n r hg
  cases hg0 : sc0.get n with
  | some r0 =>
    rcases he n r0 hg0 with hbi | ⟨d, hd', rfl⟩
    · left
      have e : r0 = r := by rw [builtinK n r0 hbi] at hg; exact Option.some.inj hg
      subst e
      exact builtin_only uid n r0 hbi
    · rcases mem_reportsOf_or_controlsOf hd' with ⟨k, hk, rfl⟩ | ⟨k, hk, rfl⟩
      · right; left
        rw [repK k hk] at hg
        exact ⟨k, hk, rfl, (Option.some.inj hg).symm⟩
      · right; right; left
        rw [ctlK k hk] at hg
        exact ⟨k, hk, rfl, (Option.some.inj hg).symm⟩
  | none =>
    right; right; right
    have hg1 : (applyUpdates sc0 upd).get n = none := ((overrides_cases sc0 upd n).2.1) hg0
    rcases hr.bwd hg with ⟨r1, h1, _⟩ | ⟨_, h2⟩
    · rw [hg1] at h1; cases h1
    · obtain ⟨i, t, rfl⟩ := Reg.isLocal_iff.mp h2
      refine ⟨i, t, rfl, ?_, ?_⟩
      · cases hn0 : (Scope.new uid).get n with
        | none => rfl
        | some rb => rw [hd n rb hn0] at hg0; cases hg0
      · intro d hd' e
        subst e
        rcases mem_reportsOf_or_controlsOf hd' with ⟨k, hk, rfl⟩ | ⟨k, hk, rfl⟩
        · rw [ha k hk] at hg0; cases hg0
        · rw [hb k hk] at hg0; cases hg0

/-! ### Non-vacuity: `exSrc` compiled with the override `bar := 9` -/

theorem exSrc_local :
    (match compile 3 exSrc [("bar".toList, 9)] with
      | .ok (_, sc) => sc.get "x".toList
      | _ => none) = some (.local 0 (.num (some 1))) := exSrc_eval.2

theorem exSrc_accepted : (compile 3 exSrc [("bar".toList, 9)]).isOk = true := by
  have := exSrc_local
  cases h : compile 3 exSrc [("bar".toList, 9)] with
  | ok q => rfl
  | err => rw [h] at this; cases this
  | panic => rw [h] at this; cases this

example : ∃ bin sc, compile 3 exSrc [("bar".toList, 9)] = .ok (bin, sc) ∧
    sc.get "Report.foo".toList = some (.report 0 (.num (some 0)) true) ∧
    sc.get "Report.acked".toList = some (.report 1 (.num (some 0)) false) ∧
    sc.get "bar".toList = some (.control 0 (.num (some 9)) false) ∧
    sc.get "Cwnd".toList = some (.implicit 4 (.num none)) := by
  cases h : compile 3 exSrc [("bar".toList, 9)] with
  | ok q =>
    obtain ⟨bin, sc⟩ := q
    obtain ⟨⟨ds, evs⟩, hp, e⟩ := Option.map_eq_some_iff.mp exSrc_parse
    cases e
    obtain ⟨ha, hb, _, hd, _⟩ := compile_scope_slots 3 exSrc _ exDecls evs bin sc hp exDecls_nodup
      (exDecls_fresh 3) h
    exact ⟨bin, sc, rfl, ha 0 (by decide), ha 1 (by decide), hb 0 (by decide),
      hd ("Cwnd", _) (by decide)⟩
  | err => have := exSrc_accepted; rw [h] at this; cases this
  | panic => have := exSrc_accepted; rw [h] at this; cases this

/-! ## The emitted instructions (`Known` is in `Lemmas/ScopeLemmas`) -/

theorem known_cases (sc : Scope) (r : Reg) :
    Known sc r ↔
      match r with
      | .report i _ v => ∃ n t, sc.get n = some (.report i t v)
      | .control i _ v => ∃ n t, sc.get n = some (.control i t v)
      | .local i _ => ∃ n t, sc.get n = some (.local i t)
      | .primitive i t => ∃ n, sc.get n = some (.primitive i t)
      | .implicit i t => ∃ n, sc.get n = some (.implicit i t)
      | _ => True := by
  have named : ∀ {r : Reg} {P : Prop}, r.isNamed = true →
      ((∃ n r', sc.get n = some r' ∧ r'.slot = r.slot) ↔ P) → (Known sc r ↔ P) :=
    fun hn hP => ⟨fun hk => hP.mp (hk hn), fun hp _ => hP.mpr hp⟩
  have get : ∀ {r r' : Reg} {n : Name}, sc.get n = some r' → r'.slot = r.slot →
      sc.get n = some ((r.setTy r'.getType).getD r) :=
    fun h1 h2 => by rw [← Reg.eq_of_slot h2]; exact h1
  cases r with
  | report | control | «local» =>
    exact named rfl ⟨fun ⟨n, _, h1, h2⟩ => ⟨n, _, get h1 h2⟩, fun ⟨n, _, h⟩ => ⟨n, _, h, rfl⟩⟩
  | primitive | implicit => exact named rfl ⟨fun ⟨n, _, h1, h2⟩ => ⟨n, get h1 h2⟩, fun ⟨n, h⟩ => ⟨n, _, h, rfl⟩⟩
  | _ => exact ⟨fun _ => trivial, fun _ => Known.of_not_named rfl⟩

/-- The emitted instructions — the `Def` prologue included — use the returned scope's assignment. With clause 6 of
`compile_scope_slots` the name is unique and, for a report / control register of index `i`, it is the `i`-th
declared report / control variable. -/
theorem instrs_use_scope (uid : Nat) (src : List Char) (upd : List (Name × Nat))
    (ds : List Decl) (evs : List Event) (bin : Bin) (sc : Scope)
    (hp : parseSource src = some (ds, evs))
    (hnd : (ds.map (·.var)).Nodup)
    (hfresh : ∀ d ∈ ds, (Scope.new uid).get d.var = none)
    (h : compile uid src upd = .ok (bin, sc)) :
    ∀ ins ∈ bin.instrs, Known sc ins.res ∧ Known sc ins.left ∧ Known sc ins.right := by
  obtain ⟨ds', evs', sc0, hp', h0, hc⟩ := compile_ok h
  cases hp.symm.trans hp'
  exact compileProg_known ((applyUpdates_reach sc0 upd).namesNodup (declareAll_namesNodup hnd hfresh h0)) hc

theorem instrs_use_scope_compileProg {evs : List Event} {sc sc' : Scope} {bin : Bin}
    (hn : NamesNodup sc) (h : compileProg evs sc = .ok (bin, sc')) :
    (∀ ins ∈ bin.instrs, Known sc' ins.res ∧ Known sc' ins.left ∧ Known sc' ins.right) ∧ NamesNodup sc' :=
  ⟨compileProg_known hn h, (Reach.of_compileProg h).namesNodup hn⟩

/-! ## Oracle: the conclusion of `compile_scope_slots` as a decidable check of an observed scope -/

def isLocalReg : Reg → Bool
  | .local .. => true
  | _ => false

def admissible (ds : List Decl) (upd : List (Name × Nat)) (n : Name) (r : Reg) : Bool :=
  abiTable.any (fun p => p.1.toList == n && p.2 == r) ||
  (reportsOf ds).zipIdx.any (fun p => p.1.var == n && r == .report p.2 (overrideTy upd n p.1.init) p.1.vol) ||
  (controlsOf ds).zipIdx.any (fun p => p.1.var == n && r == .control p.2 (overrideTy upd n p.1.init) p.1.vol) ||
  (isLocalReg r && !abiTable.any (fun p => p.1.toList == n) && !ds.any (fun d => d.var == n))

def localsInjective (obs : List (Name × Option Reg)) : Bool :=
  obs.all fun a => obs.all fun b =>
    match a.2, b.2 with
    | some (.local i _), some (.local j _) => i != j || a.1 == b.1
    | _, _ => true

/-- `C13.check src upd observed`: `observed` lists `Scope::get(name)` for some names of the scope
returned by compiling `src` with overrides `upd`. When the declared names are pairwise distinct and
differ from the built-ins (the property's quantifier), every observed binding is exactly the one the
declarations, overrides and ABI prescribe; an unbound name is neither built-in nor declared; and locals
are injective. -/
def check (src : List Char) (upd : List (Name × Nat)) (obs : List (Name × Option Reg)) : Bool :=
  match parseSource src with
  | none => true
  | some (ds, _) =>
    if !(decide ((ds.map (·.var)).Nodup) && ds.all (fun d => ((Scope.new 0).get d.var).isNone)) then true
    else
      obs.all (fun p => match p.2 with
        | some r => admissible ds upd p.1 r
        | none => !abiTable.any (fun q => q.1.toList == p.1) && !ds.any (fun d => d.var == p.1)) &&
      localsInjective obs

theorem check_model (uid : Nat) (src : List Char) (upd : List (Name × Nat)) (bin : Bin) (sc : Scope)
    (h : compile uid src upd = .ok (bin, sc)) (names : List Name) :
    check src upd (names.map fun n => (n, sc.get n)) = true := by
  unfold check
  cases hp : parseSource src with
  | none => rfl
  | some p =>
    obtain ⟨ds, evs⟩ := p
    simp only
    split
    · rfl
    · rename_i hc
      simp only [Bool.not_eq_true', Bool.not_eq_false, Bool.and_eq_true, decide_eq_true_eq, List.all_eq_true,
        Option.isNone_iff_eq_none] at hc
      obtain ⟨hnd, hfr0⟩ := hc
      -- the oracle tests freshness on `Scope.new 0`; `Scope.new uid` has the same bindings, by unfolding
      have hfresh : ∀ d ∈ ds, (Scope.new uid).get d.var = none := fun d hd => hfr0 d hd
      obtain ⟨ha, hb, _, habi, ⟨_, hinj, _⟩, hall⟩ := compile_scope_slots uid src upd ds evs bin sc hp hnd hfresh h
      simp only [Bool.and_eq_true, List.all_eq_true, List.mem_map, forall_exists_index, and_imp,
        forall_apply_eq_imp_iff₂]
      refine ⟨?_, ?_⟩
      · intro n _
        cases hg : sc.get n with
        | none =>
          simp only [Bool.and_eq_true, Bool.not_eq_true', List.any_eq_false, beq_iff_eq]
          refine ⟨?_, ?_⟩
          · intro q hq e
            have := habi q hq
            rw [e, hg] at this; cases this
          · intro d hd e
            rcases mem_reportsOf_or_controlsOf hd with ⟨k, hk, rfl⟩ | ⟨k, hk, rfl⟩
            · have := ha k hk
              rw [e, hg] at this; cases this
            · have := hb k hk
              rw [e, hg] at this; cases this
        | some r =>
          simp only [admissible, Bool.or_eq_true, List.any_eq_true, Bool.and_eq_true, beq_iff_eq,
            Bool.not_eq_true', List.any_eq_false]
          rcases hall n r hg with ⟨p, hp1, hp2, hp3⟩ | ⟨k, hk, e1, e2⟩ | ⟨k, hk, e1, e2⟩ | ⟨i, t, e1, e2, e3⟩
          · exact Or.inl (Or.inl (Or.inl ⟨p, hp1, hp2, hp3⟩))
          · refine Or.inl (Or.inl (Or.inr ⟨((reportsOf ds)[k], k), ?_, e1.symm, e2⟩))
            exact List.mem_zipIdx_iff_getElem?.mpr (by simp [hk])
          · refine Or.inl (Or.inr ⟨((controlsOf ds)[k], k), ?_, e1.symm, e2⟩)
            exact List.mem_zipIdx_iff_getElem?.mpr (by simp [hk])
          · refine Or.inr ⟨⟨by rw [e1]; rfl, ?_⟩, ?_⟩
            · intro q hq e
              have := builtin_abi uid
              have h1 := this.1 q hq
              rw [e, e2] at h1; cases h1
            · intro d hd e; exact e3 d hd e
      · unfold localsInjective
        simp only [List.all_eq_true, List.mem_map, forall_exists_index, and_imp, forall_apply_eq_imp_iff₂]
        intro n _ m _
        cases hgn : sc.get n with
        | none => simp
        | some rn =>
          cases hgm : sc.get m with
          | none => cases rn <;> simp
          | some rm =>
            cases rn <;> cases rm <;> simp
            rename_i i t j u
            by_cases e : i = j
            · subst e
              exact Or.inr (hinj n m i t u hgn hgm)
            · exact Or.inl e

end Portus.C13
