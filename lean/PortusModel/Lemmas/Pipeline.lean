import PortusModel.Lemmas.ScopeLemmas
/-!
# The functions of `Lang/Compile`, characterised once

What each returns on a given form of input, and what a successful run looks like; the 17 operators of
`combine` are read once, as the table `Op.kind` (`combine_eq`). On top of that an invariant of compiled expressions needs an atom
case and a `combine` case (`compileExpr_ind`), and since the instructions of a program are the `Def` preamble
followed by one block per top-level expression (`Blocks`), an invariant of emitted instructions needs in
addition the three ways a top-level expression ends (`Block`).
-/
/-! Three definitions of the C03 statement (`Props/C03`) stand here, under their names: the block decomposition below
counts with `stmtCount` / `blockCount`, and the scope invariant of `CompileInv` speaks of `primOk`. -/

namespace Portus.C03
open Portus Portus.Lang

/-- number of body statements that are not comments -/
def stmtCount : List Expr → Nat
  | [] => 0
  | e :: rest => if e = .none then stmtCount rest else stmtCount rest + 1

/-- number of top-level expressions of a program: one flag and the statements of each event -/
def blockCount : List Event → Nat
  | [] => 0
  | ev :: rest => 1 + stmtCount ev.body + blockCount rest

/-- a primitive register has one of the 15 indices handed out by `Scope::new` -/
def primOk : Reg → Bool
  | .primitive i _ => i < 15
  | _ => true

end Portus.C03

namespace Portus.Lang
open Portus Portus.C03

def flagName : Name := "__eventFlag".toList

/-- what `Scope::new` binds `flagName` to -/
def flagReg : Reg := .implicit 0 (.bool none)

/-- an operator the encoder has a byte for: `serializeOp` is `unreachable!` on `And` and `Or` -/
def okOp (o : Op) : Prop := o ≠ .and ∧ o ≠ .or

/-- `&&` and `||` are emitted as `*` and `+` -/
def Op.lower (o : Op) : Op := if o = .and then .mul else if o = .or then .add else o

theorem forall_append {α : Type} {P : α → Prop} {a b : List α} (ha : ∀ i ∈ a, P i) (hb : ∀ i ∈ b, P i) :
    ∀ i ∈ a ++ b, P i :=
  List.forall_mem_append.mpr ⟨ha, hb⟩

theorem forall_snoc {α : Type} {P : α → Prop} {a : List α} {x : α} (ha : ∀ i ∈ a, P i) (hx : P x) :
    ∀ i ∈ a ++ [x], P i :=
  forall_append ha (List.forall_mem_singleton.mpr hx)

theorem setLastRes_append (pre : List Instr) (last : Instr) (r : Reg) :
    setLastRes (pre ++ [last]) r = pre ++ [{ last with res := r }] := by
  simp [setLastRes]

theorem forall_setLastRes {P : Instr → Prop} {is : List Instr} {r : Reg} (h : ∀ i ∈ is, P i)
    (hr : ∀ i, P i → P { i with res := r }) : ∀ i ∈ setLastRes is r, P i := by
  rcases List.eq_nil_or_concat is with rfl | ⟨pre, last, rfl⟩
  · exact fun _ hi => nomatch hi
  · rw [List.concat_eq_append] at h ⊢
    rw [setLastRes_append]
    exact forall_snoc (fun i hi => h i (List.mem_append_left _ hi))
      (hr _ (h _ (List.mem_append_right _ (List.mem_singleton_self _))))

/-! ## What each function returns on a given form of input -/

theorem compileExpr_atom (p : Prim) (sc : Scope) : compileExpr (.atom p) sc = compileAtom p sc := by
  rw [compileExpr]

theorem compileExpr_sexp (o : Op) (l r : Expr) (sc : Scope) :
    compileExpr (.sexp o l r) sc =
      (compileExpr l sc >>= fun cl => compileExpr r cl.sc >>= fun cr =>
        combine o (cl.instrs ++ cr.instrs) cl.reg cr.reg cr.sc) := by
  rw [compileExpr]

theorem compileAtom_name_eq (x : Name) (sc : Scope) :
    compileAtom (.name x) sc =
      match sc.get x with
      | some r => .ok ⟨[], r, sc⟩
      | none =>
        if sc.numLocal = 255 then .err
        else if sc.numLocal + 1 < 256 then
          .ok ⟨[], .local sc.numLocal (.name x),
               { sc with numLocal := sc.numLocal + 1,
                         named := regInsert x (.local sc.numLocal (.name x)) sc.named }⟩
        else .panic := by
  rw [compileAtom, Scope.newLocal_eq]
  cases sc.get x with
  | some r => rfl
  | none =>
    dsimp only
    split
    · rfl
    · split <;> rfl

theorem compileAtom_of_get {sc : Scope} {x : Name} {r : Reg} (hg : sc.get x = some r) :
    compileAtom (.name x) sc = .ok ⟨[], r, sc⟩ := by
  rw [compileAtom_name_eq, hg]

theorem compileAtom_new {sc : Scope} {x : Name} (hg : sc.get x = none) (hn : sc.numLocal < 255) :
    compileAtom (.name x) sc =
      .ok ⟨[], .local sc.numLocal (.name x),
           { sc with numLocal := sc.numLocal + 1,
                     named := regInsert x (.local sc.numLocal (.name x)) sc.named }⟩ := by
  rw [compileAtom_name_eq, hg]
  exact (if_neg (by omega)).trans (if_pos (by omega))

theorem bindTarget_of_typed {l r : Reg} {sc : Scope} (h : ∀ s, l.getType ≠ .name s) :
    bindTarget l r sc = .ok (l, sc) := by
  unfold bindTarget
  split
  · exact absurd ‹_› (h _)
  · rfl

theorem combineBind_typed {left right : Reg} (sc : Scope) (is : List Instr)
    (hnn : ∀ s, left.getType ≠ .name s) (hr : right ≠ .none) (hl : (isRC left || isTIL left) = true) :
    combineBind is left right sc =
      .ok ⟨is ++ [{ res := left, op := .bind, left := left, right := right }], left, sc⟩ := by
  unfold combineBind
  rw [bindTarget_of_typed hnn]
  simp only [bindEmit]
  rw [if_neg hr, if_pos hl]

theorem combineBind_guarded {left : Reg} (sc : Scope) (pre : List Instr) (last : Instr)
    (hnn : ∀ s, left.getType ≠ .name s) (hl : isRC left = true) (hlast : last.res = .none) :
    combineBind (pre ++ [last]) left .none sc = .ok ⟨pre ++ [{ last with res := left }], left, sc⟩ := by
  unfold combineBind
  rw [bindTarget_of_typed hnn]
  simp only [bindEmit]
  rw [if_pos True.intro, if_pos hl]
  simp only [List.getLast?_append, List.getLast?_singleton, Option.some_or]
  rw [if_pos hlast, setLastRes_append]

/-- the target was a new name when it was compiled (a local recorded under its own name): the bind gives the
local the name is bound to *now* the type of the right-hand side -/
theorem combineBind_retype {x : Name} {i j : Nat} {t : Ty} {right : Reg} (sc : Scope) (is : List Instr)
    (hg : regGet x sc.named = some (.local j t)) (hr : right ≠ .none) (ht : ∀ s, right.getType ≠ .name s) :
    combineBind is (.local i (.name x)) right sc =
      .ok ⟨is ++ [{ res := .local j right.getType, op := .bind, left := .local j right.getType, right := right }],
           .local j right.getType,
           { sc with named := regSet x (.local j right.getType) sc.named }⟩ := by
  have hbt : bindTarget (.local i (.name x)) right sc =
      .ok (.local j right.getType, { sc with named := regSet x (.local j right.getType) sc.named }) := by
    unfold bindTarget
    rw [show (Reg.local i (Ty.name x)).getType = .name x from rfl]
    cases h : right.getType with
    | name s => exact absurd h (ht s)
    | _ => simp only [Scope.updateType, hg]
  unfold combineBind
  rw [hbt]
  simp only [bindEmit]
  rw [if_neg hr, if_pos (by rfl)]

/-! ## What a successful run looks like: atoms and the `Bind` arm -/

theorem compileAtom_ok {p : Prim} {sc : Scope} {c : CE} (h : compileAtom p sc = .ok c) :
    c.instrs = [] ∧
    ((c.sc = sc ∧ ((∃ b, p = .bool b ∧ c.reg = .immBool b) ∨ (∃ n, p = .num n ∧ c.reg = .immNum n) ∨
        ∃ x, p = .name x ∧ sc.get x = some c.reg)) ∨
     ∃ x, p = .name x ∧ sc.get x = none ∧ sc.numLocal + 1 < 256 ∧ c.reg = .local sc.numLocal (.name x) ∧
       c.sc = { sc with numLocal := sc.numLocal + 1,
                        named := regInsert x (.local sc.numLocal (.name x)) sc.named }) := by
  cases p with
  | bool b => cases h; exact ⟨rfl, .inl ⟨rfl, .inl ⟨b, rfl, rfl⟩⟩⟩
  | num n => cases h; exact ⟨rfl, .inl ⟨rfl, .inr (.inl ⟨n, rfl, rfl⟩)⟩⟩
  | name x =>
    rw [compileAtom_name_eq] at h
    split at h
    · rename_i hg; cases h; exact ⟨rfl, .inl ⟨rfl, .inr (.inr ⟨x, rfl, hg⟩)⟩⟩
    · rename_i hg
      split at h
      · cases h
      · split at h
        · rename_i hlt
          cases h
          exact ⟨rfl, .inr ⟨x, rfl, hg, hlt, rfl, rfl⟩⟩
        · cases h

theorem bindTarget_ok {l r l' : Reg} {sc sc' : Scope} (h : bindTarget l r sc = .ok (l', sc')) :
    (l' = l ∧ sc' = sc) ∨
    ∃ s r0, l.getType = .name s ∧ (∀ s', r.getType ≠ .name s') ∧ sc.get s = some r0 ∧
      r0.setTy r.getType = some l' ∧ sc' = { sc with named := regSet s l' sc.named } := by
  unfold bindTarget at h
  split at h
  · rename_i s hs
    split at h
    · cases h; exact .inl ⟨rfl, rfl⟩
    · rename_i hnn
      obtain ⟨r0, h1, h2, rfl⟩ := Scope.updateType_ok h
      exact .inr ⟨s, r0, hs, hnn, h1, h2, rfl⟩
  · cases h; exact .inl ⟨rfl, rfl⟩

theorem combineBind_inv {is : List Instr} {l r : Reg} {sc : Scope} {c : CE}
    (h : combineBind is l r sc = .ok c) :
    bindTarget l r sc = .ok (c.reg, c.sc) ∧
    ((r = .none ∧ isRC c.reg = true ∧ ∃ pre last, is = pre ++ [last] ∧ last.res = .none ∧
        c.instrs = pre ++ [{ last with res := c.reg }]) ∨
     (r ≠ .none ∧ (isRC c.reg || isTIL c.reg) = true ∧
        c.instrs = is ++ [{ res := c.reg, op := .bind, left := c.reg, right := r }])) := by
  unfold combineBind at h
  split at h
  case h_2 | h_3 => cases h
  rename_i l' sc' hq
  unfold bindEmit at h
  split at h
  · rename_i hr
    split at h
    · rename_i hrc
      split at h
      · cases h
      · rename_i last hlast
        split at h
        · rename_i hres
          cases h
          obtain ⟨pre, rfl⟩ := List.getLast?_eq_some_iff.mp hlast
          exact ⟨hq, .inl ⟨hr, hrc, pre, last, rfl, hres, setLastRes_append _ _ _⟩⟩
        · cases h
    · cases h
  · rename_i hr
    split at h
    · rename_i hm; cases h; exact ⟨hq, .inr ⟨hr, hm, rfl⟩⟩
    · cases h

/-! ## The operator table of `combine` -/

/-- the kinds of arm of the `match *o` of `compile_expr`: a pure operator tests both operand types with `ty`
and puts its result into a fresh temporary of type `t` -/
inductive OpKind where
  | pure (ty : Ty → Bool) (t : Ty)
  | bind
  | guard
  | «def»

def Op.kind : Op → OpKind
  | .add | .div | .max | .maxWrap | .min | .mul | .sub => .pure isNumTy (.num none)
  | .equiv | .gt | .lt => .pure isNumTy (.bool none)
  | .and | .or => .pure isBoolTy (.bool none)
  | .bind => .bind
  | .ewma | .if | .notIf => .guard
  | .def => .def

theorem combine_eq (o : Op) (is : List Instr) (l r : Reg) (sc : Scope) :
    combine o is l r sc =
      match o.kind with
      | .pure ty t =>
        if !ty l.getType then .err else if !ty r.getType then .err else
          .ok ⟨is ++ [{ res := (sc.newTmp t).1, op := o.lower, left := l, right := r }],
               (sc.newTmp t).1, (sc.newTmp t).2⟩
      | .bind => combineBind is l r sc
      | .guard =>
        if l = .none ∨ r = .none then .err
        else .ok ⟨is ++ [{ res := .none, op := o, left := l, right := r }], .none, sc⟩
      | .def => .panic := by
  cases o <;> rfl

theorem combine_bind (is : List Instr) (l r : Reg) (sc : Scope) :
    combine .bind is l r sc = combineBind is l r sc := rfl

theorem combine_guard {o : Op} (ho : o = .if ∨ o = .notIf ∨ o = .ewma) (is : List Instr) {left right : Reg}
    (sc : Scope) (hl : left ≠ .none) (hr : right ≠ .none) :
    combine o is left right sc =
      .ok ⟨is ++ [{ res := .none, op := o, left := left, right := right }], .none, sc⟩ := by
  rcases ho with rfl | rfl | rfl <;> simp only [combine, hl, hr, or_self, if_false]

theorem Op.kind_spec (o : Op) :
    match o.kind with
    | .pure ty t =>
      (t = .num none ∨ t = .bool none) ∧ (o.lower ≠ .and ∧ o.lower ≠ .or) ∧ o.lower ≠ .def ∧
      ty Reg.none.getType = false
    | .bind => o = .bind
    | .guard => (o = .ewma ∨ o = .if ∨ o = .notIf) ∧ (o ≠ .and ∧ o ≠ .or) ∧ o ≠ .def
    | .def => o = .def := by
  cases o <;> dsimp only [Op.kind] <;> decide

theorem Op.kind_pure {o : Op} {ty : Ty → Bool} {t : Ty} (h : o.kind = .pure ty t) :
    (t = .num none ∨ t = .bool none) ∧ okOp o.lower ∧ o.lower ≠ .def ∧
    ∀ {x : Reg}, ty x.getType = true → x ≠ .none := by
  have := Op.kind_spec o
  rw [h] at this
  obtain ⟨h1, h2, h3, h4⟩ := this
  refine ⟨h1, h2, h3, fun hx e => ?_⟩
  rw [e, h4] at hx
  cases hx

theorem Op.kind_guard {o : Op} (h : o.kind = .guard) : (o = .ewma ∨ o = .if ∨ o = .notIf) ∧ okOp o ∧ o ≠ .def := by
  have := Op.kind_spec o
  rw [h] at this
  exact this

theorem combine_inv {o : Op} {is : List Instr} {l r : Reg} {sc : Scope} {c : CE}
    (h : combine o is l r sc = .ok c) :
    (∃ ty t, o.kind = .pure ty t ∧ ty l.getType = true ∧ ty r.getType = true ∧
      c = ⟨is ++ [{ res := (sc.newTmp t).1, op := o.lower, left := l, right := r }],
           (sc.newTmp t).1, (sc.newTmp t).2⟩) ∨
    (o = .bind ∧ combineBind is l r sc = .ok c) ∨
    (o.kind = .guard ∧ l ≠ .none ∧ r ≠ .none ∧
      c = ⟨is ++ [{ res := .none, op := o, left := l, right := r }], .none, sc⟩) := by
  rw [combine_eq] at h
  split at h
  · rename_i ty t hk
    split at h
    · cases h
    · split at h
      · cases h
      · rename_i hl hr
        cases h
        exact .inl ⟨ty, t, hk, by simpa using hl, by simpa using hr, rfl⟩
  · rename_i hk
    have := Op.kind_spec o
    rw [hk] at this
    exact .inr (.inl ⟨this, h⟩)
  · rename_i hk
    split at h
    · cases h
    · rename_i hn
      cases h
      exact .inr (.inr ⟨hk, fun e => hn (.inl e), fun e => hn (.inr e), rfl⟩)
  · cases h

/-! ## What a successful run looks like: expressions and stages -/

theorem compileExpr_sexp_ok {o : Op} {le re : Expr} {sc : Scope} {c : CE}
    (h : compileExpr (.sexp o le re) sc = .ok c) :
    ∃ l r, compileExpr le sc = .ok l ∧ compileExpr re l.sc = .ok r ∧
      combine o (l.instrs ++ r.instrs) l.reg r.reg r.sc = .ok c := by
  unfold compileExpr at h
  obtain ⟨l, hl, h⟩ := Out.bind_eq_ok.mp h
  obtain ⟨r, hr, h⟩ := Out.bind_eq_ok.mp h
  exact ⟨l, r, hl, hr, h⟩

theorem compileFlag_ok {f : Expr} {sc sc' : Scope} {is : List Instr} (h : compileFlag f sc = .ok (is, sc')) :
    ∃ c fr, compileExpr f sc.clearTmps = .ok c ∧ c.sc.get flagName = some fr ∧ sc' = c.sc ∧
      (((∃ j b, c.reg = .tmp j (.bool b)) ∧ c.instrs ≠ [] ∧ is = setLastRes c.instrs fr) ∨
       ((∃ b, c.reg = .immBool b) ∧ is = c.instrs ++ [{ res := fr, op := .bind, left := fr, right := c.reg }])) := by
  unfold compileFlag at h
  obtain ⟨c, hc, h⟩ := Out.bind_eq_ok.mp h
  obtain ⟨fr, hfr, h⟩ := Out.bind_eq_ok.mp h
  have hg : c.sc.get flagName = some fr := by
    unfold flagName
    cases hg : c.sc.get "__eventFlag".toList with
    | none => rw [hg] at hfr; cases hfr
    | some x => rw [hg] at hfr; cases hfr; rfl
  refine ⟨c, fr, hc, hg, ?_⟩
  split at h
  · rename_i j b hreg
    split at h
    · cases h
    · rename_i hne
      cases h
      exact ⟨rfl, .inl ⟨⟨j, b, hreg⟩, fun e => hne (by rw [e]; rfl), rfl⟩⟩
  · rename_i b hreg; cases h; exact ⟨rfl, .inr ⟨⟨b, hreg⟩, rfl⟩⟩
  · cases h

theorem compileBody_cons_ok {e : Expr} {rest : List Expr} {sc sc' : Scope} {is : List Instr}
    (h : compileBody (e :: rest) sc = .ok (is, sc')) :
    (e = .none ∧ compileBody rest sc = .ok (is, sc')) ∨
    (e ≠ .none ∧ ∃ c is', compileExpr e sc.clearTmps = .ok c ∧ c.reg ≠ .none ∧
      compileBody rest c.sc = .ok (is', sc') ∧ is = c.instrs ++ is') := by
  unfold compileBody at h
  split at h
  · exact .inl ⟨‹_›, h⟩
  · obtain ⟨c, hc, h⟩ := Out.bind_eq_ok.mp h
    split at h
    · cases h
    · obtain ⟨⟨is', sc''⟩, hq, h⟩ := Out.bind_eq_ok.mp h
      cases h
      exact .inr ⟨‹_›, c, is', hc, ‹_›, hq, rfl⟩

theorem compileEvents_cons_ok {ev : Event} {rest : List Event} {idx : Nat} {sc : Scope} {cp : CP}
    (h : compileEvents (ev :: rest) idx sc = .ok cp) :
    ∃ fi sc1 bi sc2 tail, compileFlag ev.flag sc = .ok (fi, sc1) ∧ compileBody ev.body sc1 = .ok (bi, sc2) ∧
      compileEvents rest (idx + fi.length + bi.length) sc2 = .ok tail ∧
      cp = ⟨⟨idx, fi.length, idx + fi.length, bi.length⟩ :: tail.events, fi ++ bi ++ tail.instrs, tail.sc⟩ := by
  unfold compileEvents at h
  obtain ⟨⟨fi, sc1⟩, h1, h⟩ := Out.bind_eq_ok.mp h
  obtain ⟨⟨bi, sc2⟩, h2, h⟩ := Out.bind_eq_ok.mp h
  obtain ⟨tail, h3, h⟩ := Out.bind_eq_ok.mp h
  cases h
  exact ⟨fi, sc1, bi, sc2, tail, h1, h2, h3, rfl⟩

theorem compileProg_ok {evs : List Event} {sc sc' : Scope} {bin : Bin} (h : compileProg evs sc = .ok (bin, sc')) :
    ∃ cp, compileEvents evs (defInstrs sc.named).length sc = .ok cp ∧
      bin = ⟨cp.events, defInstrs sc.named ++ cp.instrs⟩ ∧ sc' = cp.sc := by
  unfold compileProg at h
  obtain ⟨cp, hcp, h⟩ := Out.bind_eq_ok.mp h
  cases h
  exact ⟨cp, hcp, rfl, rfl⟩

/-! ## The whole compilation -/

theorem newWithScope_ok {uid : Nat} {src : List Char} {evs : List Event} {sc : Scope}
    (h : newWithScope uid src = .ok (evs, sc)) :
    ∃ ds, parseSource src = some (ds, evs) ∧ declareAll (Scope.new uid) ds = .ok sc := by
  unfold newWithScope at h
  split at h
  · cases h
  · rename_i ds evs' hp
    obtain ⟨sc0, hd, h⟩ := Out.bind_eq_ok.mp h
    cases h
    exact ⟨ds, hp, hd⟩

theorem compile_ok {uid : Nat} {src : List Char} {upd : List (Name × Nat)} {bin : Bin} {sc : Scope}
    (h : compile uid src upd = .ok (bin, sc)) :
    ∃ ds evs sc0, parseSource src = some (ds, evs) ∧ declareAll (Scope.new uid) ds = .ok sc0 ∧
      compileProg evs (applyUpdates sc0 upd) = .ok (bin, sc) := by
  unfold compile at h
  obtain ⟨⟨evs, sc0⟩, hq, h⟩ := Out.bind_eq_ok.mp h
  obtain ⟨ds, hp, hd⟩ := newWithScope_ok hq
  exact ⟨ds, evs, sc0, hp, hd, h⟩

theorem compileAndSerialize_ok {uid : Nat} {src : List Char} {upd : List (Name × Nat)} {img : Bytes} {sc : Scope}
    (h : compileAndSerialize uid src upd = .ok (img, sc)) :
    ∃ bin, compile uid src upd = .ok (bin, sc) ∧ bin.serialize = .ok img := by
  unfold compileAndSerialize at h
  obtain ⟨⟨bin, sc'⟩, hc, h⟩ := Out.bind_eq_ok.mp h
  obtain ⟨b, hs, h⟩ := Out.bind_eq_ok.mp h
  cases h
  exact ⟨bin, hc, hs⟩

theorem Bin.serialize_ok {bin : Bin} {bytes : Bytes} (h : bin.serialize = .ok bytes) :
    ∃ ib, serializeInstrs bin.instrs = .ok ib ∧ bytes = bin.events.flatMap EvRec.serialize ++ ib := by
  unfold Bin.serialize at h
  obtain ⟨ib, h1, h2⟩ := Out.bind_eq_ok.mp h
  simp only [Out.pure_eq, Out.ok.injEq] at h2
  exact ⟨ib, h1, h2.symm⟩

theorem compileAndSerialize_eq {uid : Nat} {src : List Char} {upd : List (Name × Nat)} {ds : List Decl}
    {evs : List Event} {sc0 sc : Scope} {bin : Bin} (hp : parseSource src = some (ds, evs))
    (hd : declareAll (Scope.new uid) ds = .ok sc0) (hc : compileProg evs (applyUpdates sc0 upd) = .ok (bin, sc)) :
    compileAndSerialize uid src upd = bin.serialize >>= fun b => pure (b, sc) := by
  simp only [compileAndSerialize, compile, newWithScope, hp, hd, hc, Out.bind_ok, Out.pure_eq]

theorem compileAndSerialize_of_parse_none {uid : Nat} {src : List Char} {upd : List (Name × Nat)}
    (hp : parseSource src = none) : compileAndSerialize uid src upd = .err := by
  simp only [compileAndSerialize, compile, newWithScope, hp, Out.bind_err]

/-! ## Every stage is a `Reach` -/

theorem compileAtom_reach {F : Prop} {p : Prim} {sc : Scope} {c : CE} (hF : F → NameInv sc)
    (h : compileAtom p sc = .ok c) : Reach F sc c.sc ∧ (F → RegOk c.reg c.sc) := by
  obtain ⟨-, ⟨e, hreg⟩ | ⟨n, -, hg, hlt, hreg, e⟩⟩ := compileAtom_ok h
  · rw [e]
    refine ⟨.refl _, fun f => ?_⟩
    rcases hreg with ⟨b, -, hb⟩ | ⟨n, -, hn⟩ | ⟨n, -, hn⟩
    · rw [hb]; exact fun _ hs => by cases hs
    · rw [hn]; exact fun _ hs => by cases hs
    · exact hF f n _ hn
  · rw [e, hreg]
    refine ⟨.single (.newLocal sc n hg hlt), fun _ s hs => ?_⟩
    cases hs
    exact ⟨_, _, regGet_regInsert_self _ _ _⟩

theorem combine_reach {F : Prop} {o : Op} {is : List Instr} {l r : Reg} {sc : Scope} {c : CE}
    (hF : F → RegOk l sc ∧ RegOk r sc)
    (h : combine o is l r sc = .ok c) : Reach F sc c.sc ∧ (F → RegOk c.reg c.sc) := by
  rcases combine_inv h with ⟨ty, t, hk, -, -, rfl⟩ | ⟨-, hb⟩ | ⟨-, -, -, rfl⟩
  · exact ⟨.single (.tmp _ _), fun _ _ hs => by rcases (Op.kind_pure hk).1 with rfl | rfl <;> cases hs⟩
  · rcases bindTarget_ok (combineBind_inv hb).1 with ⟨e1, e2⟩ | ⟨s, r0, hs, -, hg, hty, e⟩
    · rw [e1, e2]; exact ⟨.refl _, fun f => (hF f).1⟩
    · have st : Step F sc c.sc := by
        rw [e]
        refine .upd sc s _ r0 _ hg hty (fun f => ⟨?_, (hF f).2⟩)
        obtain ⟨j, u, hj⟩ := (hF f).1 s hs
        rw [hj] at hg; cases hg; rfl
      refine ⟨.single st, fun f s' hs' => ?_⟩
      rw [Reg.setTy_getType hty] at hs'
      exact ((hF f).2 s' hs').step st
  · exact ⟨.refl _, fun _ _ hs => by cases hs⟩

theorem compileExpr_reach {F : Prop} {e : Expr} {sc : Scope} {c : CE} (hF : F → NameInv sc)
    (h : compileExpr e sc = .ok c) : Reach F sc c.sc ∧ (F → RegOk c.reg c.sc) := by
  induction e generalizing sc c with
  | atom p => exact compileAtom_reach hF h
  | cmd _ | none => cases h
  | sexp o le re ihl ihr =>
    obtain ⟨l, r, hl, hr, h⟩ := compileExpr_sexp_ok h
    obtain ⟨rl, okl⟩ := ihl hF hl
    obtain ⟨rr, okr⟩ := ihr (fun f => rl.nameInv f (hF f)) hr
    obtain ⟨rc, okc⟩ := combine_reach (fun f => ⟨(okl f).reach rr, okr f⟩) h
    exact ⟨(rl.trans rr).trans rc, okc⟩

theorem compileTop_reach {F : Prop} {e : Expr} {sc : Scope} {c : CE} (hF : F → NameInv sc)
    (h : compileExpr e sc.clearTmps = .ok c) : Reach F sc c.sc :=
  have r0 : Reach F sc sc.clearTmps := .single (.tmp _ _)
  r0.trans (compileExpr_reach (fun f => r0.nameInv f (hF f)) h).1

theorem Reach.of_compileAtom {p : Prim} {sc : Scope} {c : CE} (h : compileAtom p sc = .ok c) : Reach False sc c.sc :=
  (compileAtom_reach nofun h).1

theorem Reach.of_combine {o : Op} {is : List Instr} {l r : Reg} {sc : Scope} {c : CE}
    (h : combine o is l r sc = .ok c) : Reach False sc c.sc := (combine_reach nofun h).1

theorem Reach.of_compileExpr {e : Expr} {sc : Scope} {c : CE} (h : compileExpr e sc = .ok c) : Reach False sc c.sc :=
  (compileExpr_reach nofun h).1

/-! ## Invariants of compiled expressions and of blocks -/

/-- An invariant `P` of compiled expressions holds if atoms have it and `combine` keeps it. `I` is what
is known of the scopes passed through; `P` may speak of the scope of its result, and then has to
survive further transitions (`mono`). -/
theorem compileExpr_ind {I : Scope → Prop} {P : CE → Prop}
    (hI : ∀ {a b}, Reach False a b → I a → I b)
    (mono : ∀ {c : CE} {b}, Reach False c.sc b → P c → P { c with sc := b })
    (atom : ∀ {p sc c}, I sc → compileAtom p sc = .ok c → P c)
    (comb : ∀ {o} {l r c : CE}, I r.sc → P { l with sc := r.sc } → P r →
      combine o (l.instrs ++ r.instrs) l.reg r.reg r.sc = .ok c → P c)
    {e : Expr} {sc : Scope} {c : CE} (hi : I sc) (h : compileExpr e sc = .ok c) : P c := by
  induction e generalizing sc c with
  | atom p => exact atom hi h
  | cmd _ | none => cases h
  | sexp o le re ihl ihr =>
    obtain ⟨l, r, hl, hr, h⟩ := compileExpr_sexp_ok h
    have rl := (Reach.of_compileExpr hl)
    have rr := (Reach.of_compileExpr hr)
    exact comb (hI rr (hI rl hi)) (mono rr (ihl hi hl)) (ihr (hI rl hi) hr) h

/-- the block one top-level expression contributes, compiled from `sc` with fresh temporaries: the
condition of an event, made to end in a write of `fr`, the binding of `__eventFlag`; or a statement -/
inductive Block (sc : Scope) : List Instr → Scope → Prop
  | flagTmp {f : Expr} {c : CE} {fr : Reg} : compileExpr f sc.clearTmps = .ok c →
      (∃ j b, c.reg = .tmp j (.bool b)) → c.instrs ≠ [] → c.sc.get flagName = some fr →
      Block sc (setLastRes c.instrs fr) c.sc
  | flagImm {f : Expr} {c : CE} {fr : Reg} : compileExpr f sc.clearTmps = .ok c →
      (∃ b, c.reg = .immBool b) → c.sc.get flagName = some fr →
      Block sc (c.instrs ++ [{ res := fr, op := .bind, left := fr, right := c.reg }]) c.sc
  | stmt {e : Expr} {c : CE} : compileExpr e sc.clearTmps = .ok c → c.reg ≠ .none → Block sc c.instrs c.sc

inductive Blocks : Scope → List (List Instr) → Scope → Prop
  | nil (sc : Scope) : Blocks sc [] sc
  | cons {sc sc1 sc2 : Scope} {b : List Instr} {bs : List (List Instr)} :
      Block sc b sc1 → Blocks sc1 bs sc2 → Blocks sc (b :: bs) sc2

theorem Blocks.append {a b c : Scope} {xs ys : List (List Instr)} (h1 : Blocks a xs b) (h2 : Blocks b ys c) :
    Blocks a (xs ++ ys) c := by
  induction h1 with
  | nil => exact h2
  | cons hb _ ih => exact .cons hb (ih h2)

theorem compileFlag_block {f : Expr} {sc sc' : Scope} {is : List Instr} (h : compileFlag f sc = .ok (is, sc')) :
    Block sc is sc' := by
  obtain ⟨c, fr, hc, hg, rfl, ⟨ht, hne, rfl⟩ | ⟨hb, rfl⟩⟩ := compileFlag_ok h
  · exact .flagTmp hc ht hne hg
  · exact .flagImm hc hb hg

theorem compileBody_blocks {body : List Expr} {sc sc' : Scope} {is : List Instr}
    (h : compileBody body sc = .ok (is, sc')) :
    ∃ bs, is = bs.flatten ∧ Blocks sc bs sc' ∧ bs.length = stmtCount body := by
  induction body generalizing sc is with
  | nil => cases h; exact ⟨[], rfl, .nil _, rfl⟩
  | cons e rest ih =>
    rcases compileBody_cons_ok h with ⟨he, h⟩ | ⟨he, c, is', hc, hreg, hq, rfl⟩
    · simpa only [stmtCount, if_pos he] using ih h
    · obtain ⟨bs, rfl, hbs, hl⟩ := ih hq
      exact ⟨c.instrs :: bs, rfl, .cons (.stmt hc hreg) hbs, by simp only [stmtCount, if_neg he, List.length_cons, hl]⟩

theorem compileEvents_blocks {evs : List Event} {idx : Nat} {sc : Scope} {cp : CP}
    (h : compileEvents evs idx sc = .ok cp) :
    ∃ bs, cp.instrs = bs.flatten ∧ Blocks sc bs cp.sc ∧ bs.length = blockCount evs := by
  induction evs generalizing idx sc cp with
  | nil => cases h; exact ⟨[], rfl, .nil _, rfl⟩
  | cons ev rest ih =>
    obtain ⟨fi, sc1, bi, sc2, tail, h1, h2, h3, rfl⟩ := compileEvents_cons_ok h
    obtain ⟨bb, rfl, hbb, lb⟩ := compileBody_blocks h2
    obtain ⟨tb, ht, htb, lt⟩ := ih h3
    refine ⟨fi :: (bb ++ tb), ?_, .cons (compileFlag_block h1) (hbb.append htb), ?_⟩
    · simp only [ht, List.flatten_cons, List.flatten_append, List.append_assoc]
    · simp only [blockCount, List.length_cons, List.length_append, lb, lt]; omega

theorem compileProg_blocks {evs : List Event} {sc sc' : Scope} {bin : Bin}
    (h : compileProg evs sc = .ok (bin, sc')) :
    ∃ bs, bin.instrs = defInstrs sc.named ++ bs.flatten ∧ Blocks sc bs sc' ∧ bs.length = blockCount evs := by
  obtain ⟨cp, hcp, rfl, rfl⟩ := compileProg_ok h
  obtain ⟨bs, e, hbs, l⟩ := compileEvents_blocks hcp
  exact ⟨bs, by rw [e], hbs, l⟩

theorem Block.reach {F : Prop} {sc sc1 : Scope} {b : List Instr} (hF : F → NameInv sc) (h : Block sc b sc1) :
    Reach F sc sc1 := by
  cases h <;> exact compileTop_reach hF ‹_›

theorem Blocks.reach {F : Prop} {sc sc' : Scope} {bs : List (List Instr)} (hF : F → NameInv sc)
    (h : Blocks sc bs sc') : Reach F sc sc' := by
  induction h with
  | nil => exact .refl _
  | cons hb _ ih =>
    have r1 := hb.reach hF
    exact r1.trans (ih (fun f => r1.nameInv f (hF f)))

theorem compileProg_reach {F : Prop} {evs : List Event} {sc sc' : Scope} {bin : Bin} (hF : F → NameInv sc)
    (h : compileProg evs sc = .ok (bin, sc')) : Reach F sc sc' := by
  obtain ⟨bs, -, hbs, -⟩ := compileProg_blocks h
  exact hbs.reach hF

theorem Reach.of_compileFlag {flag : Expr} {sc sc' : Scope} {is : List Instr}
    (h : compileFlag flag sc = .ok (is, sc')) : Reach False sc sc' := (compileFlag_block h).reach nofun

theorem Reach.of_compileBody {body : List Expr} {sc sc' : Scope} {is : List Instr}
    (h : compileBody body sc = .ok (is, sc')) : Reach False sc sc' := by
  obtain ⟨bs, -, hbs, -⟩ := compileBody_blocks h
  exact hbs.reach nofun

theorem Reach.of_compileEvents {evs : List Event} {idx : Nat} {sc : Scope} {cp : CP}
    (h : compileEvents evs idx sc = .ok cp) : Reach False sc cp.sc := by
  obtain ⟨bs, -, hbs, -⟩ := compileEvents_blocks h
  exact hbs.reach nofun

theorem Reach.of_compileProg {evs : List Event} {sc sc' : Scope} {bin : Bin}
    (h : compileProg evs sc = .ok (bin, sc')) : Reach False sc sc' := compileProg_reach nofun h

/-- a property `B` of blocks that every top-level expression establishes, in the scope it ends in,
holds of all blocks in the final scope -/
theorem Blocks.forall {I : Scope → Prop} {B : Scope → List Instr → Prop}
    (hI : ∀ {a b}, Reach False a b → I a → I b)
    (mono : ∀ {a b is}, Reach False a b → B a is → B b is)
    (step : ∀ {sc b sc1}, I sc → Block sc b sc1 → B sc1 b)
    {sc sc' : Scope} {bs : List (List Instr)} (h : Blocks sc bs sc') (hi : I sc) : ∀ b ∈ bs, B sc' b := by
  induction h with
  | nil => exact fun _ hb => nomatch hb
  | cons hb hbs ih =>
    exact List.forall_mem_cons.mpr ⟨mono (hbs.reach nofun) (step hi hb), ih (hI (hb.reach nofun) hi)⟩

/-! ## Every register of a compiled program is bound in the final scope

The one invariant proved in this module (for `C13.instrs_use_scope`, which imports no module behind this one): it needs
no hypothesis on the scope, so atom, `combine` and block case use the inversions only. -/

def KnownCE (c : CE) : Prop := Known c.sc c.reg ∧ ∀ ins ∈ c.instrs, KnownInstr c.sc ins

theorem compileAtom_known {p : Prim} {sc : Scope} {c : CE} (h : compileAtom p sc = .ok c) : KnownCE c := by
  obtain ⟨hi, ⟨e, hreg⟩ | ⟨n, -, -, -, hreg, e⟩⟩ := compileAtom_ok h
  all_goals refine ⟨?_, by rw [hi]; exact fun _ h => nomatch h⟩
  · rcases hreg with ⟨b, -, hb⟩ | ⟨n, -, hn⟩ | ⟨n, -, hn⟩
    · rw [hb]; exact .of_not_named rfl
    · rw [hn]; exact .of_not_named rfl
    · rw [e]; exact .of_get hn
  · rw [e, hreg]; exact .of_get (n := n) (regGet_regInsert_self _ _ _)

theorem combine_known {o : Op} {l r c : CE} (hl : KnownCE { l with sc := r.sc }) (hr : KnownCE r)
    (h : combine o (l.instrs ++ r.instrs) l.reg r.reg r.sc = .ok c) : KnownCE c := by
  have his : ∀ ins ∈ l.instrs ++ r.instrs, KnownInstr r.sc ins := forall_append hl.2 hr.2
  have rc := (Reach.of_combine h)
  have his' : ∀ ins ∈ l.instrs ++ r.instrs, KnownInstr c.sc ins := fun i hi => (his i hi).reach rc
  rcases combine_inv h with ⟨ty, t, -, -, -, rfl⟩ | ⟨-, hb⟩ | ⟨-, -, -, rfl⟩
  · exact ⟨.of_not_named rfl, forall_snoc his' ⟨.of_not_named rfl, hl.1.reach rc, hr.1.reach rc⟩⟩
  · obtain ⟨hq, hc⟩ := combineBind_inv hb
    have kreg : Known c.sc c.reg := by
      rcases bindTarget_ok hq with ⟨e1, e2⟩ | ⟨s, r0, -, -, hg, -, e⟩
      · rw [e1, e2]; exact hl.1
      · refine .of_get (n := s) ?_
        rw [e]; exact (regGet_regSet_of_bound hg _ s).trans (if_pos rfl)
    refine ⟨kreg, ?_⟩
    rcases hc with ⟨-, -, pre, last, e, -, hi⟩ | ⟨-, -, hi⟩
    · rw [hi, ← setLastRes_append, ← e]; exact forall_setLastRes his' fun _ hk => ⟨kreg, hk.2.1, hk.2.2⟩
    · rw [hi]; exact forall_snoc his' ⟨kreg, kreg, hr.1.reach rc⟩
  · exact ⟨.of_not_named rfl, forall_snoc his ⟨.of_not_named rfl, hl.1, hr.1⟩⟩

theorem compileExpr_known {e : Expr} {sc : Scope} {c : CE} (h : compileExpr e sc = .ok c) : KnownCE c :=
  compileExpr_ind (I := fun _ => True) (fun _ _ => trivial)
    (fun r hk => ⟨hk.1.reach r, fun i hi => (hk.2 i hi).reach r⟩)
    (fun _ h => compileAtom_known h) (fun _ hl hr h => combine_known hl hr h) trivial h

theorem Block.known {sc sc1 : Scope} {b : List Instr} (h : Block sc b sc1) : ∀ ins ∈ b, KnownInstr sc1 ins := by
  cases h with
  | flagTmp hc _ _ hg => exact forall_setLastRes (compileExpr_known hc).2 fun _ hk => ⟨.of_get hg, hk.2.1, hk.2.2⟩
  | flagImm hc _ hg =>
    have k := compileExpr_known hc
    exact forall_snoc k.2 ⟨.of_get hg, .of_get hg, k.1⟩
  | stmt hc => exact (compileExpr_known hc).2

theorem compileProg_known {evs : List Event} {sc sc' : Scope} {bin : Bin} (hn : NamesNodup sc)
    (h : compileProg evs sc = .ok (bin, sc')) : ∀ ins ∈ bin.instrs, KnownInstr sc' ins := by
  obtain ⟨bs, e, hbs, -⟩ := compileProg_blocks h
  have hb := hbs.forall (I := fun _ => True) (B := fun sc b => ∀ ins ∈ b, KnownInstr sc ins)
    (fun _ _ => trivial) (fun r hk i hi => (hk i hi).reach r) (fun _ hb => hb.known) trivial
  rw [e]
  exact forall_append (fun i hi => (defInstrs_known (sc := sc) (fun p hp => hn.get_of_mem hp) i hi).reach
    (hbs.reach (F := False) nofun)) (List.forall_mem_flatten.mpr hb)

end Portus.Lang
