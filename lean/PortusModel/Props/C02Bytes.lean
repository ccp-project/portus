import PortusModel.Props.C02Loop
import PortusModel.Props.C08
/-!
# C02 end to end: datagram BYTES in, user-code calls out

For every script of datagrams that are each a concatenation of well-formed (libccp-encoded) messages, the runtime —
receive path `Backend.next` over the bytes, decoder `fromBuf`, dispatch `step` — calls user code exactly as the flat-map
specification says for the carried messages, each attributed to the sender of the datagram that carried it.

By induction over the loop, from `C08.wellformed_datagrams_yield_messages` (framing: what is pending is the carried
messages), `Ipc.next_spec` (each `next` yields the head of what is pending) and `C02.step_refines` (each step refines
the flat map). A bare `specRun` in this file is `C02.specRun`; the receive path's `Ipc.specRun` enters only through
`C08.wellformed_datagrams_yield_messages`.
-/
namespace Portus.C02
open Portus Portus.Lang Portus.Wire Portus.Ipc Portus.Rt

/-- the carried messages in the order and with the sender the specification sees them: the receive path yields
(message, sender) (`Ipc.specRun`, `C08.scriptMsgs`), the flat-map specification `C02.specRun` takes (sender, message) -/
def scriptHist (s : List (Addr × List Msg)) : List (Addr × Msg) := (C08.scriptMsgs s).map fun p => (p.2, p.1)

def specCalls (pick : Bytes → Nat) (hist : List (Addr × Msg)) : List Ev :=
  userCalls ((specRun pick Spec.init hist).flatMap id)

theorem step_nofail {σ : Type} (cfg : Cfg) (pol : Policy σ) (hb : pol.Bounded) (st : St σ) (hsf : st.sendFail = 0)
    (addr : Addr) (msg : Msg) :
    ∃ st' evs, step cfg pol st addr msg = .ok (.cont st' evs) ∧ st'.sendFail = 0 := by
  obtain ⟨r, hr, hs⟩ := step_stepped cfg pol hb st addr msg
  obtain ⟨st', evs, rfl⟩ := hs.cont_of_zero hsf
  have hle : st'.sendFail ≤ st.sendFail := hs.sendFail_le
  exact ⟨st', evs, hr, by omega⟩

/-- the loop invariant of `loop_calls_exact`: the unread window and the rest of the script are well-formed -/
structure WInv (b : Backend) (rx : List Rx) : Prop where
  inv : Inv b
  win : ∃ ms : List Msg, ms.all C07.wfMsg = true ∧ window b = ms.flatMap C07.libccpBytes
  rx_eq : ∃ s', C08.wfScript s' = true ∧ rx = C08.scriptRx s'

/-- on a window of well-formed messages `parseAt` yields the first and leaves such a window -/
theorem parseAt_wf (b : Backend) (rx : List Rx) (hinv : Inv b) (ms : List Msg) (hms : ms.all C07.wfMsg = true)
    (hwin : window b = ms.flatMap C07.libccpBytes) (hlt : b.readUntil < b.totRead) :
    ∃ m n, parseAt b rx = .ok (some (m, b.lastAddr), { b with readUntil := b.readUntil + n }, rx) ∧
      Inv { b with readUntil := b.readUntil + n } ∧
      ∃ ms' : List Msg, ms'.all C07.wfMsg = true ∧
        window { b with readUntil := b.readUntil + n } = ms'.flatMap C07.libccpBytes := by
  have hl := hinv.len; have htr := hinv.tr
  have hwl := window_length b hinv
  cases ms with
  | nil =>
    rw [hwin] at hwl
    simp at hwl
    omega
  | cons m ms' =>
    simp only [List.all_cons, Bool.and_eq_true] at hms
    obtain ⟨_, _, rfl, hpos, hfb⟩ := C07.decode_encode m hms.1 (ms'.flatMap C07.libccpBytes)
    have hwin' : window b = C07.libccpBytes m ++ ms'.flatMap C07.libccpBytes := by
      rw [hwin]; rfl
    have hn : (C07.libccpBytes m).length ≤ b.totRead - b.readUntil := by
      rw [← hwl, hwin', List.length_append]; omega
    refine ⟨m, (C07.libccpBytes m).length, ?_, ⟨hl, by show b.readUntil + _ ≤ b.totRead; omega, htr⟩, ms', hms.2, ?_⟩
    · rw [parseAt_eq b hinv, hwin', hfb]
    · rw [window_advance, hwin', List.drop_left']
      rfl

/-- on a well-formed script `next` ends only at the stop poll, and `WInv` is kept -/
theorem next_wf (b : Backend) (rx : List Rx) (hW : WInv b rx) :
    (∃ b' rx', next b rx = .ok (none, b', rx') ∧ endedByStop b rx = true) ∨
    (∃ p b' rx', next b rx = .ok (some p, b', rx') ∧ WInv b' rx' ∧
      lastSf (rx.take (rx.length - rx'.length)) = none) := by
  obtain ⟨hinv, ⟨ms, hms, hwin⟩, ⟨s', hs', hrx⟩⟩ := hW
  by_cases hlt : b.readUntil < b.totRead
  · right
    obtain ⟨m, n, hp, hinv', hwin'⟩ := parseAt_wf b rx hinv ms hms hwin hlt
    refine ⟨(m, b.lastAddr), { b with readUntil := b.readUntil + n }, rx, ?_, ⟨hinv', hwin', s', hs', hrx⟩, ?_⟩
    · unfold next
      rw [if_pos hlt]
      exact hp
    · simp [lastSf]
  · subst hrx
    cases s' with
    | nil =>
      left
      refine ⟨b, [], ?_, ?_⟩
      · simp [next, hlt, C08.scriptRx, getNextRead]
      · simp [endedByStop, hlt, C08.scriptRx, getNextRead]
    | cons q r =>
      right
      obtain ⟨a, ms2⟩ := q
      obtain ⟨h1, hpos, h3, h4⟩ := C08.wfScript_cons hs'
      have hl := hinv.len
      generalize hd : ms2.flatMap C07.libccpBytes = d at hpos h3
      have htake : d.take 1024 = d := List.take_of_length_le h3
      let b2 : Backend := { buf := d ++ b.buf.drop d.length, totRead := d.length, readUntil := 0, lastAddr := a }
      have hnext : next b (C08.scriptRx ((a, ms2) :: r)) = parseAt b2 (C08.scriptRx r) := by
        unfold next
        rw [if_neg hlt]
        simp only [C08.scriptRx, List.map_cons, hd, getNextRead, recvInto, hl, htake]
        rw [if_neg (by omega)]
      have hinv2 : Inv b2 := ⟨by show (d ++ b.buf.drop d.length).length = 1024; simp [hl]; omega,
        Nat.zero_le _, h3⟩
      have hwin2 : window b2 = ms2.flatMap C07.libccpBytes := by
        show ((d ++ b.buf.drop d.length).drop 0).take (d.length - 0) = _
        simp [hd]
      obtain ⟨m, n, hp, hinv', hwin'⟩ := parseAt_wf b2 (C08.scriptRx r) hinv2 ms2 h1 hwin2 hpos
      refine ⟨(m, b2.lastAddr), { b2 with readUntil := b2.readUntil + n }, C08.scriptRx r, hnext.trans hp,
        ⟨hinv', hwin', r, h4, rfl⟩, by simp [C08.scriptRx, lastSf]⟩

/-- from any loop state that satisfies `WInv`: the run returns `Ok` (nothing fails, the fuel covers what is pending) and
its calls are, after those already made, what the specification prescribes for what is pending -/
theorem loop_calls_exact {σ : Type} (cfg : Cfg) (pol : Policy σ) (hb : pol.Bounded) (fuel : Nat)
    (b : Backend) (rx : List Rx) (hW : WInv b rx) (hm : Ipc.measure b rx < fuel) (st : St σ) (hsf : st.sendFail = 0)
    (hw : WfSt st) (sp : Spec) (habs : Abs st sp) (acc : List Ev) :
    ∃ tr, runLoop cfg pol fuel b rx st acc = .ok (tr, .ok) ∧
      userCalls tr = userCalls acc ++
        userCalls ((specRun cfg.pick sp ((pendingSpec b rx).map Prod.swap)).flatMap id) := by
  induction fuel generalizing b rx st sp acc with
  | zero => omega
  | succ fuel ih =>
    have hinv := hW.inv
    rcases next_wf b rx hW with ⟨b', rx', hn, hstop⟩ | ⟨⟨msg, addr⟩, b', rx', hn, hW', hlast⟩
    · have hp : pendingSpec b rx = [] := next_spec_of_eq hinv hn
      refine ⟨acc ++ rxEvents (rx.take (rx.length - rx'.length)) ++ shutdown st, ?_, ?_⟩
      · unfold runLoop loopStep
        rw [hn]
        simp only [hstop, if_true]
      · rw [hp]
        simp [specRun, userCalls_append, userCalls_shutdown, userCalls_rxEvents]
    · obtain ⟨_, hp, hdec, _⟩ := next_spec_of_eq hinv hn
      have hap : applySf st (rx.take (rx.length - rx'.length)) = st := by
        unfold applySf
        rw [hlast]
      obtain ⟨st', evs, hs, hsf'⟩ := step_nofail cfg pol hb st hsf addr msg
      -- the step did not fail, so it is the serving alternative of `step_refines`
      obtain ⟨hcb, habs', hw'⟩ : evs.filter isCallback = (specStep cfg.pick sp addr msg).2 ∧
          Abs st' (specStep cfg.pick sp addr msg).1 ∧ WfSt st' := by
        rcases step_refines cfg pol hb st hw sp habs addr msg with
          ⟨st2, evs2, hs2, hcb, habs', hw'⟩ | ⟨st2, evs2, hs2, _⟩
        · cases hs.symm.trans hs2
          exact ⟨hcb, habs', hw'⟩
        · cases hs.symm.trans hs2
      have hls : loopStep cfg pol b rx st =
          .ok (.more b' rx' st' (rxEvents (rx.take (rx.length - rx'.length)) ++ evs)) := by
        unfold loopStep
        rw [hn]
        simp only [hap, hs]
      obtain ⟨tr, htr, hcalls⟩ := ih b' rx' hW' (by omega) st' hsf' hw' _ habs'
        (acc ++ (rxEvents (rx.take (rx.length - rx'.length)) ++ evs))
      refine ⟨tr, ?_, ?_⟩
      · rw [runLoop, hls]
        exact htr
      · rw [hcalls, hp]
        simp only [List.map_cons, Prod.swap, specRun, List.flatMap_cons, id, userCalls_append, userCalls_rxEvents,
          List.nil_append, List.append_assoc, ← hcb, userCalls_filter_callback]

/-- **bytes in, calls out (exact form)**: with no scripted send failures (`scriptRx` contains none and the budget starts
at 0) the run returns `Ok` when the script ends, and its user-code calls are the specification's. -/
theorem wellformed_script_calls_eq_spec {σ : Type} (cfg : Cfg) (pol : Policy σ) (hb : pol.Bounded)
    (buf0 : Bytes) (hlen : buf0.length = 1024) (s : List (Addr × List Msg)) (h : C08.wfScript s = true) :
    ∃ tr, Rt.run cfg pol buf0 (C08.scriptRx s) = .ok (tr, .ok) ∧
      userCalls tr = specCalls cfg.pick (scriptHist s) := by
  have hW : WInv (Backend.new buf0) (C08.scriptRx s) :=
    ⟨.new hlen, ⟨[], rfl, by simp [window, Backend.new]⟩, ⟨s, h, rfl⟩⟩
  obtain ⟨tr, hrun, hcalls⟩ := loop_calls_exact cfg pol hb (rxFuel (C08.scriptRx s) + 1) (Backend.new buf0)
    (C08.scriptRx s) hW (by simp [Ipc.measure, Backend.new]) St.init rfl WfSt.init Spec.init (Abs_init 0) []
  refine ⟨tr, hrun, ?_⟩
  rw [hcalls, pendingSpec_new, C08.wellformed_datagrams_yield_messages s h]
  rfl

/-- **bytes in, calls out (prefix form)**: the user-code calls of the run over a well-formed script are a prefix of the
specification's (a failed install send may end the run early). -/
theorem wellformed_script_calls_prefix {σ : Type} (cfg : Cfg) (pol : Policy σ) (hb : pol.Bounded)
    (buf0 : Bytes) (hlen : buf0.length = 1024) (s : List (Addr × List Msg)) (h : C08.wfScript s = true) :
    ∃ tr r, Rt.run cfg pol buf0 (C08.scriptRx s) = .ok (tr, r) ∧
      userCalls tr <+: specCalls cfg.pick (scriptHist s) := by
  obtain ⟨tr, hrun, hcalls⟩ := wellformed_script_calls_eq_spec cfg pol hb buf0 hlen s h
  exact ⟨tr, .ok, hrun, hcalls ▸ List.prefix_refl _⟩

end Portus.C02
