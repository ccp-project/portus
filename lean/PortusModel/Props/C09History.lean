import PortusModel.Props.C02History
/-!
# C09 and C16 over whole histories, read off the flat-map specification

`C02.history_refines_flat_map` says the runtime's callbacks over any history are those of `C02.specRun`. The sentences of
C09 (datapaths are isolated) and of C16 (ignored messages have no effect on how later messages are dispatched) are therefore
statements about the specification alone.
-/
namespace Portus.C09
open Portus Portus.Lang Portus.Wire Portus.Ipc Portus.Rt Portus.C02

/-- a message from datapath `a` never creates, replaces or closes a flow of another datapath, even when flow ids coincide -/
theorem spec_other_addresses_untouched (pick : Bytes → Nat) (s : Spec) (a : Addr) (m : Msg) (b : Addr) (hb : b ≠ a) (sid : Nat) :
    ((specStep pick s a m).1).get b sid = s.get b sid := by
  have hk : ∀ k, (b, sid) ≠ (a, k) := fun k e => hb (Prod.mk.inj e).1
  cases m with
  | other r => rfl
  | rdy id =>
    simp only [specStep, Spec.get]
    rw [lookup_filter_addr, if_neg hb]
  | cr c =>
    simp only [specStep, Spec.get]
    rw [Assoc.lookup_cons_filter_ne, if_neg (hk _)]
  | ms m =>
    simp only [specStep]
    cases hg : s.get a m.sid with
    | none => rfl
    | some n =>
      by_cases hn : m.numFields = 0
      · simp only [hn, if_true, Spec.get]
        rw [Assoc.lookup_filter_ne, if_neg (hk _)]
      · simp only [hn, if_false]

/-- the flow numbers a callback list speaks about -/
def flowOf : Ev → Option Nat
  | .newFlow n .. => some n
  | .report n .. => some n
  | .closed n => some n
  | .dropped n => some n
  | _ => none

/-- every callback caused by a message from `a` goes to a flow registered under `a` (or to the flow just created for `a`) -/
theorem spec_callbacks_own_flows (pick : Bytes → Nat) (s : Spec) (hnd : (s.cur.map (·.1)).Nodup) (a : Addr) (m : Msg) :
    ∀ e ∈ (specStep pick s a m).2, ∀ n, flowOf e = some n → n = s.next ∨ ∃ sid, s.get a sid = some n := by
  intro e he n hf
  cases m with
  | other r => cases he
  | rdy id =>
    obtain ⟨k, hk, rfl⟩ := List.mem_map.mp he
    cases hf
    obtain ⟨⟨⟨a', sid⟩, n⟩, hp, rfl⟩ := List.mem_map.mp (List.mem_mergeSort.mp hk)
    obtain ⟨hp1, hp2⟩ := List.mem_filter.mp hp
    cases of_decide_eq_true hp2
    exact .inr ⟨sid, Assoc.lookup_of_mem_nodup s.cur hnd (a', sid) n hp1⟩
  | cr c =>
    rcases List.mem_append.mp he with he | he
    · cases hg : s.get a c.sid with
      | none => rw [hg] at he; cases he
      | some k =>
        rw [hg] at he
        cases List.mem_singleton.mp he
        cases hf
        exact .inr ⟨c.sid, hg⟩
    · cases List.mem_singleton.mp he
      cases hf
      exact .inl rfl
  | ms m =>
    simp only [specStep] at he
    cases hg : s.get a m.sid with
    | none => rw [hg] at he; cases he
    | some k =>
      rw [hg] at he
      refine .inr ⟨m.sid, ?_⟩
      -- a close names the flow twice (closed, dropped), a report once
      by_cases hn : m.numFields = 0
      · simp only [hn, if_true] at he
        rcases List.mem_cons.mp he with rfl | he
        · cases hf; exact hg
        · cases List.mem_singleton.mp he; cases hf; exact hg
      · simp only [hn, if_false] at he
        cases List.mem_singleton.mp he
        cases hf
        exact hg

/-- a restart (ready) of one datapath discards exactly that datapath's flows -/
theorem spec_ready_discards_only_own (pick : Bytes → Nat) (s : Spec) (a : Addr) (id : Nat) :
    (∀ sid, ((specStep pick s a (.rdy id)).1).get a sid = none) ∧
    (∀ b, b ≠ a → ∀ sid, ((specStep pick s a (.rdy id)).1).get b sid = s.get b sid) := by
  refine ⟨?_, fun b hb sid => spec_other_addresses_untouched pick s a (.rdy id) b hb sid⟩
  intro sid
  simp only [specStep, Spec.get]
  rw [lookup_filter_addr, if_pos rfl]

/-- C16, second sentence, over histories: a message the runtime ignores (unknown type, CCP-to-datapath type, undecodable
header — all `Msg.other`) anywhere in a history leaves the callbacks of everything after it exactly as they would have been
without it -/
theorem spec_ignored_is_identity (pick : Bytes → Nat) (s : Spec) (pre suf : List (Addr × Msg)) (a : Addr) (r : Raw) :
    specRun pick s (pre ++ (a, .other r) :: suf) =
      (specRun pick s (pre ++ suf)).take pre.length ++ [] :: (specRun pick s (pre ++ suf)).drop pre.length := by
  induction pre generalizing s with
  | nil =>
    simp only [List.nil_append, List.length_nil, List.take_zero, List.drop_zero, specRun, specStep]
  | cons x rest ih =>
    obtain ⟨b, m⟩ := x
    simp only [List.cons_append, specRun, List.length_cons, List.take_succ_cons, List.drop_succ_cons]
    rw [ih]

/-- C16 over histories, for a measurement (or close) for a flow that is not registered (unknown datapath, unknown or already
closed flow): it causes no callback and leaves those of everything after it as they would have been without it -/
theorem spec_unknown_measure_is_identity (pick : Bytes → Nat) (s : Spec) (a : Addr) (m : Measure)
    (h : s.get a m.sid = none) (suf : List (Addr × Msg)) :
    specRun pick s ((a, .ms m) :: suf) = [] :: specRun pick s suf := by
  have hs : specStep pick s a (.ms m) = (s, []) := by
    simp only [specStep, h]
  simp only [specRun, hs]

end Portus.C09
