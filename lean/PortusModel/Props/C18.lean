import PortusModel.Props.C16
/-!
# C18 — a stop request terminates the runtime promptly and cleanly (partial)

In the model the stop flag is polled exactly where the Rust code polls it: at the top of every
iteration of `get_next_read`, before each blocking `recv`. The script item `Rx.stop` is "this poll
read the flag false". Proved: at that poll no `recv` is made and nothing that the transport would
deliver afterwards is ever consumed; at most the messages still unparsed in the current datagram are
dispatched; the loop then ends with `Ok`, the remaining flows are dropped and nothing follows; if the
loop ends because a message fails to decode while no stop was requested, the result is `Err`.
Partial: wall-clock latency ("within about one receive timeout") and thread scheduling are outside the model;
they are observed by the `STOP` harness command with a transport whose `recv` really blocks. The
`Arc::into_raw/from_raw` bookkeeping is modelled apart from the loop (`Conc/Own`, `Props/C18Own`).
-/
namespace Portus.C18
open Portus Portus.Wire Portus.Ipc Portus.Rt

/-- **The poll that reads the flag false makes no `recv`** (`suf`: what the transport holds afterwards). -/
theorem stop_poll_ends_reception (b : Backend) (suf : List Rx) :
    getNextRead b (.stop :: suf) = (none, b, suf) := rfl

/-- `Ok` exactly when the loop ended at a stop poll; an undecodable message with the flag still set
("the message stream ends while no stop was requested") gives `Err`. -/
theorem result_ok_iff_stopped {σ : Type} (cfg : Cfg) (pol : Policy σ) (b : Backend) (rx : List Rx) (st : St σ)
    (b' : Backend) (rx' : List Rx) (h : next b rx = .ok (none, b', rx')) :
    loopStep cfg pol b rx st =
      .ok (.finished (if endedByStop b rx then .ok else .err) st (rxEvents (rx.take (rx.length - rx'.length)))) := by
  unfold loopStep
  rw [h]

/-- replace the script handed on by a `more` result -/
def retarget {σ : Type} (rx : List Rx) : Out (LoopRes σ) → Out (LoopRes σ)
  | .ok (.more b' _ st' evs) => .ok (.more b' rx st' evs)
  | o => o

private theorem parseAt_rx (b : Backend) (rx : List Rx) :
    parseAt b rx = match parseAt b [] with
      | .ok (o, b', _) => .ok (o, b', rx)
      | .err => .err
      | .panic => .panic := by
  unfold parseAt
  cases sliceP b.buf b.readUntil b.totRead with
  | panic | err => rfl
  | ok s =>
    simp only [Out.bind_ok]
    cases fromBuf s <;> rfl

/-- while bytes of the current datagram are pending, a trip round the loop does not look at the script -/
private theorem loopStep_pending {σ : Type} (cfg : Cfg) (pol : Policy σ) (b : Backend) (rx : List Rx) (st : St σ)
    (hlt : b.readUntil < b.totRead) :
    loopStep cfg pol b rx st = retarget rx (loopStep cfg pol b [] st) := by
  unfold loopStep next
  simp only [hlt, if_true]
  rw [parseAt_rx b rx]
  cases hp : parseAt b [] with
  | panic | err => rfl
  | ok y =>
    obtain ⟨o, b', rx0⟩ := y
    cases o with
    | none => simp [endedByStop, hlt, retarget]
    | some p =>
      obtain ⟨msg, addr⟩ := p
      simp only [Nat.sub_self, List.take_zero, List.take_nil]
      cases step cfg pol (applySf st []) addr msg with
      | panic | err => rfl
      | ok r => cases r <;> rfl

/-- one trip round the loop with a stop poll at the head of the script: the rest of the script is
irrelevant and is handed on unchanged -/
private theorem loopStep_stop_head {σ : Type} (cfg : Cfg) (pol : Policy σ) (b : Backend) (st : St σ) :
    ∃ x, ∀ suf, loopStep cfg pol b (.stop :: suf) st = retarget (.stop :: suf) x := by
  by_cases hlt : b.readUntil < b.totRead
  · exact ⟨loopStep cfg pol b [] st, fun suf => loopStep_pending cfg pol b _ st hlt⟩
  · refine ⟨.ok (.finished .ok st []), fun suf => ?_⟩
    unfold loopStep next
    simp [endedByStop, hlt, getNextRead, rxEvents, retarget]

/-- **Nothing after the stop poll matters**: the remaining run — trace and result — is the same whatever the
transport would still deliver. -/
theorem run_ignores_after_stop {σ : Type} (cfg : Cfg) (pol : Policy σ) (fuel : Nat) (b : Backend) (suf : List Rx)
    (st : St σ) (acc : List Ev) :
    runLoop cfg pol fuel b (.stop :: suf) st acc = runLoop cfg pol fuel b [.stop] st acc := by
  induction fuel generalizing b st acc with
  | zero => rfl
  | succ k ih =>
    obtain ⟨x, hx⟩ := loopStep_stop_head cfg pol b st
    simp only [runLoop, hx]
    cases x with
    | ok r =>
      cases r with
      | more b' rx' st' evs => exact ih b' st' (acc ++ evs)
      | finished r st' evs => rfl
    | err | panic => rfl

/-- **A stop request with nothing pending returns `Ok` at once**, after dropping the remaining flows
(the transport is closed after them); nothing else happens. -/
theorem stop_returns_ok {σ : Type} (cfg : Cfg) (pol : Policy σ) (fuel : Nat) (b : Backend)
    (hb : ¬ b.readUntil < b.totRead) (suf : List Rx) (st : St σ) (acc : List Ev) :
    runLoop cfg pol (fuel + 1) b (.stop :: suf) st acc = .ok (acc ++ shutdown st, .ok) := by
  simp only [runLoop, loopStep, next, hb, if_false, getNextRead]
  simp [endedByStop, hb, getNextRead, rxEvents]

private theorem loopStep_more_next {σ : Type} (cfg : Cfg) (pol : Policy σ) (b : Backend) (rx : List Rx) (st : St σ)
    (b' : Backend) (rx' : List Rx) (st' : St σ) (evs : List Ev)
    (h : loopStep cfg pol b rx st = .ok (.more b' rx' st' evs)) : ∃ p, next b rx = .ok (some p, b', rx') := by
  unfold loopStep at h
  split at h <;> try cases h
  rename_i msg addr b3 rx3 hn
  split at h <;> cases h
  exact ⟨(msg, addr), hn⟩

/-- with messages of the current datagram still unparsed, each further trip round the loop consumes
part of that datagram only — the script is handed on untouched and the cursor moves strictly forward
inside `[read_until, tot_read)`, so at most `tot_read − read_until` more messages are dispatched -/
theorem dispatch_after_stop_bounded {σ : Type} (cfg : Cfg) (pol : Policy σ) (b : Backend)
    (hinv : Ipc.Inv b) (suf : List Rx) (st : St σ) (b' : Backend) (st' : St σ) (evs : List Ev) (rx' : List Rx)
    (h : loopStep cfg pol b (.stop :: suf) st = .ok (.more b' rx' st' evs)) :
    rx' = .stop :: suf ∧ b.readUntil < b'.readUntil ∧ b'.readUntil ≤ b'.totRead ∧ b'.totRead = b.totRead := by
  obtain ⟨p, hn⟩ := loopStep_more_next cfg pol b _ st b' rx' st' evs h
  obtain ⟨hinv', hadv⟩ := C08.reception_advances b b' hinv _ _ p hn
  have hrx : rx' = .stop :: suf := by
    obtain ⟨x, hx⟩ := loopStep_stop_head cfg pol b st
    rw [hx] at h
    rcases x with ⟨_ | _⟩ | _ | _ <;> cases h
    rfl
  refine ⟨hrx, ?_⟩
  rcases hadv with ⟨_, h2, h3⟩ | hlt
  · exact ⟨h2, hinv'.ru, h3⟩
  · rw [hrx] at hlt; exact absurd hlt (Nat.lt_irrefl _)

/-- the final trace: everything dispatched, then the drops of the flows still alive, then nothing -/
theorem nothing_after_shutdown {σ : Type} (cfg : Cfg) (pol : Policy σ) (b : Backend) (rx : List Rx) (st : St σ)
    (acc : List Ev) (fuel : Nat) (r : Res) (st' : St σ) (evs : List Ev)
    (h : loopStep cfg pol b rx st = .ok (.finished r st' evs)) :
    runLoop cfg pol (fuel + 1) b rx st acc = .ok (acc ++ evs ++ shutdown st', r) := by
  simp only [runLoop, h]

end Portus.C18
