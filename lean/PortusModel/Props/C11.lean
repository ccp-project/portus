import PortusModel.Rt.Run
import PortusModel.Lemmas.Handle
/-!
# C11 — only controllable registers can be updated: all-or-nothing, values as asked
`setProgram`/`updateField` model `Datapath::{set_program, update_field}` up to the send;
`runUser` is how the runtime executes a flow's handle commands (the send itself).
-/
namespace Portus.C11
open Portus Portus.Lang Portus.Wire Portus.Rt

/-- **`set_program`** succeeds only if the program name is known and every named field is a declared control
variable or `Cwnd`/`Rate`; then the bytes are the change-program message with the flow id, the selected program's
uid and the (register, value) pairs in the order given. Otherwise an error: nothing is produced to transmit. -/
theorem set_program_spec (scopeMap : List (String × Scope)) (sid : Nat) (p : String)
    (fields : Option (List (Name × Nat))) :
    setProgram scopeMap sid p fields =
      match scopeMap.lookup p with
      | none => .err
      | some sc =>
        if (fields.getD []).all (fun f => updatable sc f.1) then
          match serializeChangeProg { sid := sid, uid := sc.uid, numFields := (fields.getD []).length,
                                      fields := (fields.getD []).map fun f => (regOf sc f.1, f.2) } with
          | .ok b => .ok (sc, b)
          | .err => .err
          | .panic => .panic
        else .err := by
  unfold setProgram
  cases scopeMap.lookup p with
  | none => rfl
  | some sc =>
    simp only [resolveFields_eq]
    cases (fields.getD []).all (fun f => updatable sc f.1) with
    | false => simp
    | true =>
      simp only [if_true, Out.bind_ok, List.length_map]
      cases serializeChangeProg _ <;> rfl

/-- registers produced by the handle always encode: the change-program message of a successful
resolution never panics and fails only when its length does not fit the header -/
theorem updatable_reg_encodes (sc : Scope) (n : Name) (h : updatable sc n = true) :
    ∃ c i, (regOf sc n).classIdx = .ok (c, i) ∨ (∃ j t v, regOf sc n = .control j t v ∧ j > 15) := by
  unfold updatable at h
  unfold regOf
  simp only [Bool.and_eq_true] at h
  obtain ⟨_, h⟩ := h
  cases hg : sc.get n with
  | none => simp [hg] at h
  | some r =>
    rw [hg] at h
    cases r <;> simp at h
    · rename_i j t v
      by_cases hj : j > 15
      · exact ⟨0, 0, Or.inr ⟨j, t, v, rfl, hj⟩⟩
      · exact ⟨if v then 8 else 0, j, Or.inl (by simp [Reg.classIdx, hj])⟩
    · rename_i i t
      have : ¬ i > 5 := by omega
      exact ⟨2, i, Or.inl (by simp [Reg.classIdx, this])⟩

/-- **`update_field`**: the same rule against the given scope; more than 255 fields is an error. -/
theorem update_field_spec (sc : Scope) (sid : Nat) (fields : List (Name × Nat)) :
    updateField sc sid fields =
      if fields.all (fun f => updatable sc f.1) then
        if fields.length > 255 then .err
        else serializeUpdateField { sid := sid, numFields := fields.length,
                                    fields := fields.map fun f => (regOf sc f.1, f.2) }
      else .err := by
  unfold updateField
  rw [resolveFields_eq]
  cases fields.all (fun f => updatable sc f.1) <;> simp

/-- **Nothing is transmitted on error, exactly one message on success** in the runtime's execution of a
`set_program` command (the transport may fail that send, `txFail`); the continuation learns which. -/
theorem set_program_effect {σ : Type} (cfg : Cfg) (addr sid flow : Nat) (p : String)
    (f : Option (List (Name × Nat))) (k : Option Scope → UProg σ) (sf : Nat) (acc : List Ev) :
    runUser cfg addr sid flow (.setProgram p f k) sf acc =
      match setProgram cfg.scopeMap sid p f with
      | .panic => .panic
      | .err => runUser cfg addr sid flow (k none) sf acc
      | .ok (sc, b) =>
        if sf > 0 then runUser cfg addr sid flow (k none) (sf - 1) (acc ++ [.txFail addr])
        else runUser cfg addr sid flow (k (some sc)) sf (acc ++ [.tx addr b]) := by
  simp only [runUser]
  cases setProgram cfg.scopeMap sid p f with
  | panic | err => rfl
  | ok q =>
    obtain ⟨sc, b⟩ := q
    simp only [sendTo]
    by_cases h : sf > 0 <;> simp [h]

theorem update_field_effect {σ : Type} (cfg : Cfg) (addr sid flow : Nat) (sc : Scope)
    (f : List (Name × Nat)) (k : Bool → UProg σ) (sf : Nat) (acc : List Ev) :
    runUser cfg addr sid flow (.updateField sc f k) sf acc =
      match updateField sc sid f with
      | .panic => .panic
      | .err => runUser cfg addr sid flow (k false) sf acc
      | .ok b =>
        if sf > 0 then runUser cfg addr sid flow (k false) (sf - 1) (acc ++ [.txFail addr])
        else runUser cfg addr sid flow (k true) sf (acc ++ [.tx addr b]) := by
  simp only [runUser]
  cases updateField sc sid f with
  | panic | err => rfl
  | ok b =>
    simp only [sendTo]
    by_cases h : sf > 0 <;> simp [h]

/-- `C11.check`: the observed outcome of a handle call (bytes handed to the transport, or refusal) is
the one the rule prescribes. -/
def checkSetProgram (scopeMap : List (String × Scope)) (sid : Nat) (p : String)
    (fields : Option (List (Name × Nat))) (obs : Out (Scope × Bytes)) : Bool :=
  obs == setProgram scopeMap sid p fields

example : updatable ⟨3, [("Cwnd".toList, .implicit 4 (.num none)), ("c".toList, .control 0 (.num (some 1)) false),
    ("Report.x".toList, .report 0 (.num none) true)], 1, 0, 1, []⟩ "c".toList = true := by decide
example : updatable ⟨3, [("Cwnd".toList, .implicit 4 (.num none)), ("c".toList, .control 0 (.num (some 1)) false),
    ("Report.x".toList, .report 0 (.num none) true)], 1, 0, 1, []⟩ "Report.x".toList = false := by decide

end Portus.C11
