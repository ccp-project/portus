import PortusModel.Base.Prim
/-!
# Little-endian integers (`serialize/mod.rs` `u16/u32/u64_{to,from}_u8s`, byteorder `LittleEndian`)

Values are `Nat`; writers reduce modulo the field width exactly as an `as u16`/`as u32` cast would,
readers return a value below the field width.
-/
namespace Portus

@[inline] def byte (n : Nat) : UInt8 := UInt8.ofNat n

def le16 (x : Nat) : Bytes := [byte x, byte (x / 256)]
def le32 (x : Nat) : Bytes := [byte x, byte (x / 256), byte (x / 65536), byte (x / 16777216)]
def le64 (x : Nat) : Bytes := le32 x ++ le32 (x / 4294967296)

/-- `b[i]` as a number, 0 beyond the end (callers establish the length first). -/
@[inline] def bAt (b : Bytes) (i : Nat) : Nat := (b.getD i 0).toNat

def rd16 (b : Bytes) : Nat := bAt b 0 + 256 * bAt b 1
def rd32 (b : Bytes) : Nat := bAt b 0 + 256 * bAt b 1 + 65536 * bAt b 2 + 16777216 * bAt b 3
def rd64 (b : Bytes) : Nat := rd32 b + 4294967296 * rd32 (b.drop 4)

theorem bAt_lt (b : Bytes) (i : Nat) : bAt b i < 256 := (b.getD i 0).toNat_lt

theorem rd16_lt (b : Bytes) : rd16 b < 2^16 := by
  have := bAt_lt b 0; have := bAt_lt b 1
  simp only [rd16]; omega

theorem rd32_lt (b : Bytes) : rd32 b < 2^32 := by
  have := bAt_lt b 0; have := bAt_lt b 1; have := bAt_lt b 2; have := bAt_lt b 3
  simp only [rd32]; omega

theorem rd64_lt (b : Bytes) : rd64 b < 2^64 := by
  have := rd32_lt b; have := rd32_lt (b.drop 4)
  simp only [rd64]; omega

@[simp] theorem le16_length (x : Nat) : (le16 x).length = 2 := rfl
@[simp] theorem le32_length (x : Nat) : (le32 x).length = 4 := rfl
@[simp] theorem le64_length (x : Nat) : (le64 x).length = 8 := rfl

@[simp] theorem bAt_cons_zero (a : UInt8) (l : Bytes) : bAt (a :: l) 0 = a.toNat := rfl
@[simp] theorem bAt_cons_succ (a : UInt8) (l : Bytes) (i : Nat) : bAt (a :: l) (i+1) = bAt l i := by
  simp [bAt]

theorem byte_toNat (n : Nat) : (byte n).toNat = n % 256 := by
  simp [byte, UInt8.toNat_ofNat']

theorem rd16_le16_append (x : Nat) (r : Bytes) : rd16 (le16 x ++ r) = x % 65536 := by
  simp only [rd16, le16, List.cons_append, List.nil_append, bAt_cons_zero, bAt_cons_succ, byte_toNat]
  omega

theorem rd32_le32_append (x : Nat) (r : Bytes) : rd32 (le32 x ++ r) = x % 4294967296 := by
  simp only [rd32, le32, List.cons_append, List.nil_append, bAt_cons_zero, bAt_cons_succ, byte_toNat]
  omega

theorem rd64_le64_append (x : Nat) (r : Bytes) : rd64 (le64 x ++ r) = x % 18446744073709551616 := by
  have h1 : List.drop 4 (le64 x ++ r) = le32 (x / 4294967296) ++ r := by
    simp [le64, le32]
  rw [rd64, h1, rd32_le32_append]
  simp only [le64, List.append_assoc, rd32_le32_append]
  omega

theorem rd16_le16 (x : Nat) (h : x < 2^16) : rd16 (le16 x) = x :=
  (rd16_le16_append x []).trans (Nat.mod_eq_of_lt h)
theorem rd32_le32 (x : Nat) (h : x < 2^32) : rd32 (le32 x) = x :=
  (rd32_le32_append x []).trans (Nat.mod_eq_of_lt h)
theorem rd64_le64 (x : Nat) (h : x < 2^64) : rd64 (le64 x) = x :=
  (rd64_le64_append x []).trans (Nat.mod_eq_of_lt h)

theorem bAt_take (b : Bytes) {i n : Nat} (h : i < n) : bAt (b.take n) i = bAt b i := by
  simp [bAt, h]

/-- Readers only look at the first 2 / 4 bytes. -/
theorem rd16_take (b : Bytes) (n : Nat) (h : 2 ≤ n) : rd16 (b.take n) = rd16 b := by
  simp only [rd16, bAt_take b (show 0 < n by omega), bAt_take b (show 1 < n by omega)]

theorem rd32_take (b : Bytes) (n : Nat) (h : 4 ≤ n) : rd32 (b.take n) = rd32 b := by
  simp only [rd32, bAt_take b (show 0 < n by omega), bAt_take b (show 1 < n by omega),
    bAt_take b (show 2 < n by omega), bAt_take b (show 3 < n by omega)]

/-- `n` zero bytes (kept as a definition so that `simp` does not expand it into a literal) -/
def zeros (n : Nat) : Bytes := List.replicate n 0

@[simp] theorem zeros_length (n : Nat) : (zeros n).length = n := by simp [zeros]
theorem zeros_succ (n : Nat) : zeros (n + 1) = 0 :: zeros n := by simp [zeros, List.replicate_succ]

/-- Hex rendering used by the line protocol. -/
def hexDigit (n : Nat) : Char :=
  if n < 10 then Char.ofNat (48 + n) else Char.ofNat (87 + n)

def toHex (b : Bytes) : String :=
  String.ofList (b.flatMap fun x => [hexDigit (x.toNat / 16), hexDigit (x.toNat % 16)])

def hexVal (c : Char) : Option Nat :=
  if '0' ≤ c ∧ c ≤ '9' then some (c.toNat - 48)
  else if 'a' ≤ c ∧ c ≤ 'f' then some (c.toNat - 87)
  else if 'A' ≤ c ∧ c ≤ 'F' then some (c.toNat - 55)
  else none

def fromHexAux : List Char → Option Bytes
  | [] => some []
  | [_] => none
  | a :: b :: rest => do
    let x ← hexVal a
    let y ← hexVal b
    let r ← fromHexAux rest
    pure (byte (16 * x + y) :: r)

/-- `-` denotes the empty byte string in the protocol. -/
def fromHex (s : String) : Option Bytes :=
  if s = "-" then some [] else fromHexAux s.toList

end Portus
