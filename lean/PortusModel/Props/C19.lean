import PortusModel.Conc.Transport
/-!
# C19 — the bundled transports deliver datagrams intact, once, and in order (partial)

Theorems over the transport model (`Conc/Transport.lean`): what has been received, followed by what is still queued, is exactly what was sent, in sending order
(`fifo_invariant`); hence per sender the received datagrams are a prefix of that sender's sends, each once, bytes and
boundaries intact, attributed to the right sender (`per_sender_prefix`, `drained_all_once`); a receive with nothing
pending is an error and changes nothing (`empty_recv_is_error`); a datagram that fits the buffer is returned whole
(`fits_recv_whole`); sending through a dead handle is an error, never a panic (`dead_handle_is_err`).

`check` is the acceptor the correspondence check evaluates on observations of the real `ipc::chan` / `ipc::unix`
under real threads; `model_accepted` shows every run of the model passes it (the oracle does not demand more than
the model delivers).

PARTIAL: that crossbeam's channel and the kernel's Unix-datagram queue *are* such a FIFO under real thread
interleavings is observed (bursts from 1–4 concurrent sender threads, blocking and non-blocking), not proved.
-/
namespace Portus.C19
open Portus Portus.Conc.Xpt

theorem delivered_append (a b : List Ev) : delivered (a ++ b) = delivered a ++ delivered b := by
  induction a with
  | nil => rfl
  | cons e r ih => cases e <;> simp [delivered, ih]

theorem delivered_map_got (q : List Dgram) : delivered (q.map Ev.got) = q := by
  induction q with
  | nil => rfl
  | cons d q ih => simp [delivered, ih]

theorem sentOf_append (a b : List Op) : sentOf (a ++ b) = sentOf a ++ sentOf b := by
  induction a with
  | nil => rfl
  | cons e r ih => cases e <;> simp [sentOf, ih]

theorem step_inv (s : St) (o : Op) :
    delivered (step s o).trace ++ (step s o).queue = (delivered s.trace ++ s.queue) ++ sentOf [o] := by
  cases o with
  | send d => simp [step, sentOf]
  | recv => cases hq : s.queue <;> simp [step, hq, sentOf, delivered_append, delivered]

/-- **FIFO, exactly once, intact** (a `Dgram` carries its bytes and its sender, so nothing is lost, duplicated,
reordered, split, merged or altered). -/
theorem fifo_invariant (ops : List Op) (s : St) :
    delivered (run s ops).trace ++ (run s ops).queue = (delivered s.trace ++ s.queue) ++ sentOf ops := by
  induction ops generalizing s with
  | nil => simp [run, sentOf]
  | cons o r ih =>
    have h := ih (step s o)
    simp only [run, List.foldl_cons] at h ⊢
    rw [h, step_inv]
    cases o <;> simp [sentOf, List.append_assoc]

theorem fifo_from_start (ops : List Op) :
    delivered (run {} ops).trace ++ (run {} ops).queue = sentOf ops := by
  have := fifo_invariant ops {}
  simpa [delivered] using this

theorem per_sender_prefix (ops : List Op) (snd : Nat) :
    (delivered (run {} ops).trace).filter (·.sender = snd) <+: (sentOf ops).filter (·.sender = snd) := by
  rw [← fifo_from_start ops, List.filter_append]
  exact List.prefix_append _ _

theorem drained_all_once (ops : List Op) :
    delivered (drain (run {} ops)).trace = sentOf ops := by
  simp only [drain, delivered_append, delivered_map_got]
  exact fifo_from_start ops

theorem empty_recv_is_error (s : St) (h : s.queue = []) :
    step s .recv = { s with trace := s.trace ++ [.empty] } := by
  simp [step, h]

theorem recv_returns_head (s : St) (d : Dgram) (q : List Dgram) (h : s.queue = d :: q) :
    step s .recv = { queue := q, trace := s.trace ++ [.got d] } := by
  simp [step, h]

/-- a datagram that fits the receive buffer is returned with its exact length and bytes, on both transports -/
theorem fits_recv_whole (cap : Nat) (chan : Bool) (d : Dgram) (h : d.bytes.length ≤ cap) :
    recvInto cap chan d = .ok (d.bytes.length, d.bytes) := by
  simp [recvInto, h]

/-- no datagram, whatever its size, makes a receive panic (C16: oversized payloads); an oversized one is refused
(`chan`) or truncated to the buffer (`unix`) -/
theorem recv_never_panics (cap : Nat) (chan : Bool) (d : Dgram) : recvInto cap chan d ≠ .panic := by
  unfold recvInto; split
  · simp
  · split <;> simp

theorem dead_handle_is_err (r : Out Unit) : sendMsg false r = .err ∧ sendMsg true r = r := by
  simp [sendMsg]

/-! ## schedules: the k-th send of sender `s` carries sequence number k -/

theorem sentOf_opsOf_filter (pay : Nat → Nat → Bytes) (sched : Sched) (done : Nat → Nat) (snd : Nat) :
    (sentOf (opsOf pay done sched)).filter (·.sender = snd) =
      (List.range (countOf snd sched)).map fun k => ⟨snd, done snd + k, pay snd (done snd + k)⟩ := by
  induction sched generalizing done with
  | nil => rfl
  | cons x r ih =>
    cases x with
    | none => exact ih done
    | some t =>
      simp only [opsOf, sentOf, countOf, List.filter_cons, ih]
      by_cases h : t = snd
      · subst h
        simp only [decide_true, if_true, Nat.add_comm 1, List.range_succ_eq_map, List.map_cons, List.map_map,
          Function.comp_def, Nat.add_zero, Nat.succ_eq_add_one, Nat.add_assoc]
      · simp only [h, decide_false, if_false, Bool.false_eq_true, if_neg (Ne.symm h), Nat.zero_add]

/-- one received datagram as the harness reports it: the sender and sequence number read from the payload (or the
position, for single-sender runs of tiny datagrams), the length, whether every byte equals what that sender put in
that datagram, whether the address returned by `recv` is that sender's bound address (always true on `chan`) -/
structure Rx where
  sender : Nat
  seq : Nat
  len : Nat
  bytesOk : Bool
  addrOk : Bool
deriving Repr, DecidableEq, Inhabited

/-- accept iff every received datagram is intact and rightly attributed, and for every sender the received sequence
numbers are exactly 0, 1, …, n−1 in that order with the lengths that were sent (`lens s` = lengths sender `s` sent) -/
def check (lens : List (List Nat)) (rx : List Rx) : Bool :=
  rx.all (fun r => r.bytesOk && r.addrOk && decide (r.sender < lens.length)) &&
  (List.range lens.length).all fun s =>
    ((rx.filter (·.sender = s)).map fun r => (r.seq, r.len)) ==
      (List.range (lens.getD s []).length).map fun k => (k, (lens.getD s []).getD k 0)

/-- the observation of a model run -/
def obsOf (ds : List Dgram) : List Rx := ds.map fun d => ⟨d.sender, d.seq, d.bytes.length, true, true⟩

theorem filter_obsOf (ds : List Dgram) (s : Nat) :
    (obsOf ds).filter (·.sender = s) = obsOf (ds.filter (·.sender = s)) := by
  simp only [obsOf, List.filter_map]
  rfl

theorem sender_scheduled (n : Nat) (pay : Nat → Nat → Bytes) (done : Nat → Nat) (sc : Sched)
    (hsc : ∀ x ∈ sc, ∀ s, x = some s → s < n) : ∀ d ∈ sentOf (opsOf pay done sc), d.sender < n := by
  induction sc generalizing done with
  | nil => intro d hd; simp [opsOf, sentOf] at hd
  | cons x r ih =>
    intro d hd
    cases x with
    | none => exact ih done (fun y hy => hsc y (List.mem_cons_of_mem _ hy)) d (by simpa [opsOf, sentOf] using hd)
    | some t =>
      simp only [opsOf, sentOf, List.mem_cons] at hd
      rcases hd with rfl | hd
      · exact hsc (some t) (List.mem_cons_self) t rfl
      · exact ih _ (fun y hy => hsc y (List.mem_cons_of_mem _ hy)) d hd

/-- **the acceptor accepts every run of the model**, once the receiver has drained the queue -/
theorem model_accepted (n : Nat) (pay : Nat → Nat → Bytes) (sched : Sched)
    (hs : ∀ x ∈ sched, ∀ s, x = some s → s < n) :
    check ((List.range n).map fun s => (List.range (countOf s sched)).map fun k => (pay s k).length)
      (obsOf (delivered (drain (run {} (opsOf pay (fun _ => 0) sched))).trace)) = true := by
  rw [drained_all_once]
  unfold check
  simp only [Bool.and_eq_true, List.all_eq_true, List.length_map, List.length_range, decide_eq_true_eq, List.mem_range]
  constructor
  · intro r hr
    simp only [obsOf, List.mem_map] at hr
    obtain ⟨d, hd, rfl⟩ := hr
    refine ⟨⟨rfl, rfl⟩, ?_⟩
    exact sender_scheduled n pay _ sched hs d hd
  · intro s hsn
    rw [filter_obsOf, sentOf_opsOf_filter]
    simp only [obsOf, List.map_map, Nat.zero_add]
    have hget : ((List.range n).map fun s => (List.range (countOf s sched)).map fun k => (pay s k).length).getD s [] =
        (List.range (countOf s sched)).map fun k => (pay s k).length := by
      simp [List.getD, hsn]
    rw [hget]
    simp only [List.length_map, List.length_range, beq_iff_eq]
    apply List.map_congr_left
    intro k hk
    simp only [List.mem_range] at hk
    simp [Function.comp, List.getD, hk]

/-- the acceptor rejects a loss, a duplicate, a reordering within a sender, a damaged or misattributed datagram
(non-vacuity of `check`: concrete observations) -/
example : check [[3, 4]] [⟨0, 0, 3, true, true⟩, ⟨0, 1, 4, true, true⟩] = true := by decide
example : check [[3, 4]] [⟨0, 0, 3, true, true⟩] = false := by decide                                   -- loss
example : check [[3, 4]] [⟨0, 0, 3, true, true⟩, ⟨0, 0, 3, true, true⟩, ⟨0, 1, 4, true, true⟩] = false := by decide -- duplicate
example : check [[3, 4]] [⟨0, 1, 4, true, true⟩, ⟨0, 0, 3, true, true⟩] = false := by decide             -- reordered
example : check [[3, 4]] [⟨0, 0, 3, true, true⟩, ⟨0, 1, 3, true, true⟩] = false := by decide             -- boundary moved
example : check [[3, 4]] [⟨0, 0, 3, false, true⟩, ⟨0, 1, 4, true, true⟩] = false := by decide            -- bytes damaged
example : check [[3], [4]] [⟨1, 0, 4, true, true⟩, ⟨0, 0, 3, true, false⟩] = false := by decide          -- wrong address
example : check [[3], [4]] [⟨1, 0, 4, true, true⟩, ⟨0, 0, 3, true, true⟩] = true := by decide            -- senders interleave freely

end Portus.C19
