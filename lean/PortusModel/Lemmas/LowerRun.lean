import PortusModel.Lemmas.LowerSem
/-!
# `lower ≈ Sem`: events, one invocation, runs, program switch

The chain of `LowerSem.lean` goes on: `lowerBody_agrees`, `lowerFlag_agrees` (stage 3a), `lowerEvents_agrees` (3b),
`invoke_correct` (4), `lower_run_correct` (5), `switch_sim`. `lowerFlag_correct` and `lowerEvents_correct` are the
`match` forms of 3a and 3b (last section of `LowerSem.lean`); no proof uses them.

Devices: `SimC` (`Sim` field by field) for the stages that look at particular implicit registers; `defFold` with
`defFold_other` / `_self` / `_frame` (what it leaves alone and what it sets); `vmPrologue` / `srcPrologue`, the two
sides before the expression loop.

Stage 3b assumes that no body statement assigns `__eventFlag` (`noFlagWriteE`, part of `WritesOk`): `evalEvents`
decides the break rule on the *condition value* it just computed, the machine on the *register* `impl[0]` after the
body. With `(when true (:= __eventFlag 0)) (when true (:= Cwnd 1))` the source stops after the first event
(`cont = 0`), the machine sees `impl[0] = 0` and goes on to the second (`stage3_needs_noFlagWrite`). No text the
parser accepts is excluded: user names never start with `__`, and `(report)` / `(fallthrough)` assign
`__shouldReport` / `__shouldContinue`; the theorems take it as a decidable hypothesis and do not derive it from the
parse.
-/
namespace Portus.Lang.Frag
open Portus Portus.Lang Portus.Vm

/-- `Sim` spelled out: the clock origin, the six implicit registers, and the user variables -/
structure SimC (ρ : Rho) (s : Sem.SrcState) (c : Conn) : Prop where
  t0 : c.t0 = s.t0
  ev : c.regs.impl.getD 0 0 = s.ev
  cont : c.regs.impl.getD 1 0 = s.cont
  rep : c.regs.impl.getD 2 0 = s.rep
  micros : c.regs.impl.getD 3 0 = s.micros
  cwnd : c.regs.impl.getD 4 0 = s.cwnd
  rate : c.regs.impl.getD 5 0 = s.rate
  vars : ∀ (env : Env) x r, ρ x = some r → isBuiltinName x = false → readReg env c r = Sem.lookupVar s.vars x

/-- some environment, for reading registers whose value does not depend on it -/
def env0 : Env := ⟨0, 0, ⟨[], 0, 0⟩⟩

theorem read_impls (env : Env) (s : Sem.SrcState) :
    Sem.read env s "__eventFlag".toList = s.ev ∧ Sem.read env s "__shouldContinue".toList = s.cont ∧
    Sem.read env s "__shouldReport".toList = s.rep ∧ Sem.read env s "Micros".toList = s.micros ∧
    Sem.read env s "Cwnd".toList = s.cwnd ∧ Sem.read env s "Rate".toList = s.rate := by
  simp only [Sem.read, String.toList_inj, String.reduceEq, if_true, if_false, and_self]

theorem Sim.toC {ρ : Rho} {decls : List Sem.VarDecl} (hρ : RhoOk ρ decls) {s : Sem.SrcState} {c : Conn}
    (h : Sim ρ s c) : SimC ρ s c := by
  obtain ⟨r0, r1, r2, r3, r4, r5⟩ := read_impls env0 s
  exact
    { t0 := h.2
      ev := (h.1 env0 _ ⟨2, 0⟩ (hρ.impls 0 (by decide))).trans r0
      cont := (h.1 env0 _ ⟨2, 1⟩ (hρ.impls 1 (by decide))).trans r1
      rep := (h.1 env0 _ ⟨2, 2⟩ (hρ.impls 2 (by decide))).trans r2
      micros := (h.1 env0 _ ⟨2, 3⟩ (hρ.impls 3 (by decide))).trans r3
      cwnd := (h.1 env0 _ ⟨2, 4⟩ (hρ.impls 4 (by decide))).trans r4
      rate := (h.1 env0 _ ⟨2, 5⟩ (hρ.impls 5 (by decide))).trans r5
      vars := fun env x r hx hb => (h.1 env x r hx).trans (read_nonbuiltin env s hb) }

theorem SimC.toSim {ρ : Rho} {decls : List Sem.VarDecl} (hρ : RhoOk ρ decls) {s : Sem.SrcState} {c : Conn}
    (h : SimC ρ s c) : Sim ρ s c := by
  refine ⟨fun env x r hx => ?_, h.t0⟩
  obtain ⟨r0, r1, r2, r3, r4, r5⟩ := read_impls env s
  rcases rho_cases hρ hx with ⟨i, hi, rfl, rfl⟩ | ⟨i, hi, rfl, rfl⟩ | ⟨hb, _⟩
  · exact (read_prim env s i hi).symm
  · match i, hi with
    | 0, _ => exact h.ev.trans r0.symm
    | 1, _ => exact h.cont.trans r1.symm
    | 2, _ => exact h.rep.trans r2.symm
    | 3, _ => exact h.micros.trans r3.symm
    | 4, _ => exact h.cwnd.trans r4.symm
    | 5, _ => exact h.rate.trans r5.symm
  · exact (h.vars env x r hx hb).trans (read_nonbuiltin env s hb).symm

theorem sim_iff {ρ : Rho} {decls : List Sem.VarDecl} (hρ : RhoOk ρ decls) {s : Sem.SrcState} {c : Conn} :
    Sim ρ s c ↔ SimC ρ s c := ⟨Sim.toC hρ, SimC.toSim hρ⟩

theorem lowerBody_cons_inv {ρ : Rho} {e : Expr} {rest : List Expr} {is : List VInstr}
    (h : lowerBody ρ (e :: rest) = some is) :
    ∃ a b, lowerStmt ρ e = some a ∧ lowerBody ρ rest = some b ∧ is = a ++ b := by
  rw [lowerBody] at h
  split at h
  · rename_i a b h1 h2; exact ⟨a, b, h1, h2, (Option.some.inj h).symm⟩
  · cases h

/-- a body is its statements one after the other (`lowerStmt_agrees`, `Agrees.andThen`); comments lower to nothing;
the event flag is as before, since no statement assigns it -/
theorem lowerBody_agrees {ρ : Rho} {decls : List Sem.VarDecl} (hρ : RhoOk ρ decls) (env : Env) :
    ∀ (body : List Expr) (is : List VInstr), body.all stmtOk2 = true → body.all litsOkE = true →
      (body.all fun e => writesOkE e && noFlagWriteE e) = true → lowerBody ρ body = some is → TmpsOk is →
      ∀ (s : Sem.SrcState) (c : Conn), Sim ρ s c → RegsWf c →
        Agrees ρ (fun s' _ _ => s'.ev = s.ev) (Sem.evalStmts env s body) (execInstrs env c is) := by
  intro body
  induction body with
  | nil =>
    intro is _ _ _ hlow _ s c sim wf
    rw [lowerBody] at hlow; cases hlow
    exact ⟨rfl, sim, wf, rfl⟩
  | cons e rest ih =>
    intro is hok hlit hwr hlow ht s c sim wf
    obtain ⟨a, b, ha, hb, rfl⟩ := lowerBody_cons_inv hlow
    simp only [List.all_cons, Bool.and_eq_true] at hok hlit hwr
    obtain ⟨hta, htb⟩ := TmpsOk.append ht
    by_cases hne : e = .none
    · subst hne
      rw [lowerStmt] at ha; cases ha
      rw [List.nil_append, Sem.evalStmts]
      exact ih b hok.2 hlit.2 hwr.2 hb htb s c sim wf
    · rw [evalStmts_cons env s e rest hne]
      refine (lowerStmt_agrees hρ hok.1 hne hlit.1 hwr.1.1 ha hta env s c sim wf).andThen ?_
      intro s1 _ c1 _ sim1 wf1 hev
      exact (ih b hok.2 hlit.2 hwr.2 hb htb s1 c1 sim1 wf1).mono fun _ _ h => h.trans (hev hwr.1.2)

theorem lowerFlag_inv {ρ : Rho} {e : Expr} {fi : List VInstr} (h : lowerFlag ρ e = some fi) :
    ∃ c, lowerE ρ e 0 = some c ∧
      ((c.reg.cls = 7 ∧ c.instrs ≠ [] ∧ fi = setLastRet c.instrs vFlag) ∨
       (c.reg.cls = 1 ∧ fi = c.instrs ++ [⟨1, vFlag, vFlag, c.reg⟩])) := by
  unfold lowerFlag at h
  split at h
  · rename_i c hc
    refine ⟨c, hc, ?_⟩
    split at h
    · rename_i h7
      split at h
      · cases h
      · rename_i hne
        exact .inl ⟨h7, by simpa using hne, (Option.some.inj h).symm⟩
    · split at h
      · rename_i h1; exact .inr ⟨h1, (Option.some.inj h).symm⟩
      · cases h
  · cases h

theorem flag_write {ρ : Rho} {decls : List Sem.VarDecl} (hρ : RhoOk ρ decls) (env : Env) {s : Sem.SrcState}
    {c : Conn} (sim : Sim ρ s c) (wf : RegsWf c) (v : Val) :
    Sim ρ { s with ev := v } (writeReg env c v vFlag) ∧ RegsWf (writeReg env c v vFlag) ∧
      (writeReg env c v vFlag).regs.impl.getD 0 0 = v := by
  have hsim : Sim ρ { s with ev := v } (writeReg env c v vFlag) :=
    write_sim hρ (x := "__eventFlag".toList) (hρ.impls 0 (by decide))
      (by simp only [Sem.write, String.toList_inj, String.reduceEq, if_true, if_false]) sim wf
  exact ⟨hsim, writeReg_wf _ _ _ _ wf, (Sim.toC hρ hsim).ev⟩

theorem lowerFlag_shape {ρ : Rho} {decls : List Sem.VarDecl} (hρ : RhoOk ρ decls) {e : Expr} {fi : List VInstr}
    (h : lowerFlag ρ e = some fi) : fi ≠ [] ∧ ∀ i ∈ fi, i.op ≠ 2 := by
  obtain ⟨le, hle, hfi⟩ := lowerFlag_inv h
  obtain ⟨_, _, hops⟩ := lowerE_shape hρ e 0 le hle
  obtain ⟨h7, hne, rfl⟩ | ⟨h1, rfl⟩ := hfi
  · rcases List.eq_nil_or_concat le.instrs with hnil | ⟨a, l, hal⟩
    · exact absurd hnil hne
    · rw [hal, List.concat_eq_append] at hops ⊢
      obtain ⟨h1, h2⟩ := List.forall_mem_append.mp hops
      rw [setLastRet_snoc]
      exact ⟨by simp, List.forall_mem_append.mpr ⟨fun i hi => (h1 i hi).op_ne2,
        List.forall_mem_singleton.mpr (List.forall_mem_singleton.mp h2).op_ne2⟩⟩
  · exact ⟨by simp, List.forall_mem_append.mpr ⟨fun i hi => (hops i hi).op_ne2,
      List.forall_mem_singleton.mpr (by decide : (1 : Nat) ≠ 2)⟩⟩

/-- the condition of an event: its value goes to the event flag -/
def flagRes (env : Env) (s : Sem.SrcState) (e : Expr) : Sem.Res :=
  andThen (Sem.evalE env s e) fun s1 v => .ok { s1 with ev := v } v

/-- **Stage 3a.** The condition block computes the condition into the event flag: an operator expression writes
the flag with its last instruction (`alu_step` into `vFlag`), a literal is bound to it -/
theorem lowerFlag_agrees {ρ : Rho} {decls : List Sem.VarDecl} (hρ : RhoOk ρ decls) {e : Expr} {fi : List VInstr}
    (hp : pureE e = true) (hlit : litsOkE e = true) (hlow : lowerFlag ρ e = some fi) (ht : TmpsOk fi)
    (env : Env) (s : Sem.SrcState) (c : Conn) (sim : Sim ρ s c) (wf : RegsWf c) :
    Agrees ρ (fun s' v c' => s'.ev = v ∧ c'.regs.impl.getD 0 0 = v) (flagRes env s e) (execInstrs env c fi) := by
  obtain ⟨le, hle, ⟨h7, hne, rfl⟩ | ⟨h1, rfl⟩⟩ := lowerFlag_inv hlow
  · cases e with
    | cmd _ | none => cases hp
    | atom p => exact absurd (lowerE_atom_inv hle).1 hne
    | sexp o l r =>
      obtain ⟨⟨code, ho⟩, hpl, hpr⟩ := pureE_sexp hp
      obtain ⟨cl, cr, hl, hr, rfl⟩ := lowerE_op_inv ho hle
      obtain ⟨hll, hlr⟩ := litsOkE_sexp hlit
      simp only [setLastRet_snoc] at ht ⊢
      obtain ⟨ht1, ht2, -⟩ := forall_mem_node ht
      simp only [flagRes, evalE_op ho, andThen_assoc]
      refine operands_agree hρ hl hr (noHazard_of_pure hpr)
        (lowerE_agrees hρ l (valueE_of_pure hpl) hll 0 cl env s c hl sim wf ht1)
        (fun s1 c1 sim1 wf1 => lowerE_agrees hρ r (valueE_of_pure hpr) hlr cl.k cr env s1 c1 hr sim1 wf1 ht2) ?_
      intro s2 c2 sim2 wf2 _
      rcases alu_step env s2 c2 ho vFlag cl.reg cr.reg with ⟨v, hres, hx⟩ | ⟨rc, hres, hrc, hx⟩ | hres <;> rw [hres]
      · obtain ⟨a1, a2, a3⟩ := flag_write hρ env sim2 wf2 v
        rw [andThen_ok, hx]
        exact ⟨rfl, a1, a2, rfl, a3⟩
      · rw [andThen_fault, hx]
        exact ⟨hrc, rfl, sim2, wf2⟩
      · trivial
  · refine (lowerE_agrees hρ e (valueE_of_pure hp) hlit 0 le env s c hle sim wf (TmpsOk.append ht).1).andThen ?_
    rintro s1 v c1 - sim1 wf1 ⟨rd, -⟩
    obtain ⟨a1, a2, a3⟩ := flag_write hρ env sim1 wf1 v
    rw [execInstrs_single (i := ⟨1, vFlag, vFlag, le.reg⟩) (c2 := writeReg env c1 v vFlag) (rc := 0)
      (by simp only [execInstr, rd]) (by omega)]
    exact ⟨rfl, a1, a2, rfl, a3⟩

/-- stage 3a (`lowerFlag_agrees`) as a `match`; a condition is pure, so the source state is the one before but for
the flag (`KeepsState`) -/
theorem lowerFlag_correct {ρ : Rho} {decls : List Sem.VarDecl} (hρ : RhoOk ρ decls) (e : Expr) (fi : List VInstr)
    (hp : pureE e = true) (hlit : litsOkE e = true) (hlow : lowerFlag ρ e = some fi) (ht : TmpsOk fi)
    (env : Env) (s : Sem.SrcState) (c : Conn) (sim : Sim ρ s c) (wf : RegsWf c) :
    fi ≠ [] ∧
    match Sem.evalE env s e with
    | .ok s' v => s' = s ∧ ∃ c', execInstrs env c fi = (c', 0) ∧ Sim ρ { s with ev := v } c' ∧ RegsWf c' ∧
        c'.regs.impl.getD 0 0 = v
    | .fault s' rc => s' = s ∧ rc < 0 ∧ ∃ c', execInstrs env c fi = (c', rc) ∧ Sim ρ s c' ∧ RegsWf c'
    | .outside => True
    | .notDenoted => False := by
  refine ⟨(lowerFlag_shape hρ hlow).1, ?_⟩
  have h := lowerFlag_agrees hρ hp hlit hlow ht env s c sim wf
  obtain ⟨hst1, hst2⟩ := evalE_pure_state (env := env) e hp s
  unfold flagRes at h
  generalize Sem.evalE env s e = res at h hst1 hst2
  cases res with
  | ok s' v =>
    cases hst1 s' v rfl
    exact ⟨rfl, _, Prod.ext rfl h.1, h.2.1, h.2.2.1, h.2.2.2.2⟩
  | fault s' rc =>
    cases hst2 s' rc rfl
    exact ⟨rfl, h.1, _, Prod.ext rfl h.2.1, h.2.2.1, h.2.2.2⟩
  | outside => trivial
  | notDenoted => exact h

theorem slice_mid {p : Program} {a m b : List VInstr} {st n : Nat} (hp : p.instrs = a ++ m ++ b)
    (ha : a.length = st) (hm : m.length = n) : sliceInstrs p st n = m := by
  subst ha hm
  simp [sliceInstrs, hp, List.append_assoc]

theorem execExpr_flag_fault {env : Env} {p : Program} {c c1 : Conn} {e : Libccp.Expr} {fi : List VInstr} {rc : Int}
    (hfi : sliceInstrs p e.condStart e.numCond = fi) (h : execInstrs env c fi = (c1, rc)) (hrc : rc < 0) :
    execExpr env p c e = (c1, rc) := by
  simp [execExpr, hfi, h, hrc]

theorem execExpr_flag_false {env : Env} {p : Program} {c c1 : Conn} {e : Libccp.Expr} {fi : List VInstr}
    (hfi : sliceInstrs p e.condStart e.numCond = fi) (h : execInstrs env c fi = (c1, 0))
    (h0 : c1.regs.impl.getD 0 0 = 0) : execExpr env p c e = (c1, 0) := by
  rw [List.getD_eq_getElem?_getD] at h0
  simp [execExpr, hfi, h, h0]

theorem execExpr_flag_true {env : Env} {p : Program} {c c1 : Conn} {e : Libccp.Expr} {fi bi : List VInstr}
    (hfi : sliceInstrs p e.condStart e.numCond = fi) (hbi : sliceInstrs p e.eventStart e.numEvent = bi)
    (h : execInstrs env c fi = (c1, 0)) (h0 : c1.regs.impl.getD 0 0 ≠ 0) :
    execExpr env p c e = execInstrs env c1 bi := by
  rw [List.getD_eq_getElem?_getD] at h0
  simp [execExpr, hfi, hbi, h, h0]

theorem execExprs_fault {env : Env} {p : Program} {c c2 : Conn} {e : Libccp.Expr} (rest : List Libccp.Expr)
    {rc : Int} (h : execExpr env p c e = (c2, rc)) (hrc : rc < 0) :
    execExprs env p c (e :: rest) = (c2, rc) := by
  simp [execExprs, h, hrc]

theorem execExprs_break {env : Env} {p : Program} {c c2 : Conn} {e : Libccp.Expr} (rest : List Libccp.Expr)
    (h : execExpr env p c e = (c2, 0)) (h0 : c2.regs.impl.getD 0 0 ≠ 0) (h1 : c2.regs.impl.getD 1 0 = 0) :
    execExprs env p c (e :: rest) = (c2, 0) := by
  rw [List.getD_eq_getElem?_getD] at h0 h1
  simp [execExprs, h, h0, h1]

theorem execExprs_continue {env : Env} {p : Program} {c c2 : Conn} {e : Libccp.Expr} (rest : List Libccp.Expr)
    (h : execExpr env p c e = (c2, 0)) (h01 : c2.regs.impl.getD 0 0 = 0 ∨ c2.regs.impl.getD 1 0 ≠ 0) :
    execExprs env p c (e :: rest) = execExprs env p c2 rest := by
  rw [List.getD_eq_getElem?_getD, List.getD_eq_getElem?_getD] at h01
  rcases h01 with h0 | h1
  · simp [execExprs, h, h0]
  · simp [execExprs, h, h1]

theorem lowerEvents_cons_inv {ρ : Rho} {ev : Event} {rest : List Event} {idx : Nat} {lp : LP}
    (h : lowerEvents ρ (ev :: rest) idx = some lp) :
    ∃ fi bi tail, lowerFlag ρ ev.flag = some fi ∧ lowerBody ρ ev.body = some bi ∧
      lowerEvents ρ rest (idx + fi.length + bi.length) = some tail ∧
      lp = ⟨{ condStart := idx, numCond := fi.length, eventStart := idx + fi.length, numEvent := bi.length }
              :: tail.exprs, fi ++ bi ++ tail.instrs⟩ := by
  rw [lowerEvents] at h
  split at h
  · rename_i fi bi h1 h2
    split at h
    · rename_i tail h3; exact ⟨fi, bi, tail, h1, h2, h3, (Option.some.inj h).symm⟩
    · cases h
  · cases h

theorem evalEvents_cons (env : Env) (s : Sem.SrcState) (ev : Event) (rest : List Event) :
    Sem.evalEvents env s (ev :: rest) =
      andThen (flagRes env s ev.flag) fun s1 c =>
        if c != 0 then
          andThen (Sem.evalStmts env s1 ev.body) fun s2 _ =>
            if s2.cont == 0 then .ok s2 0 else Sem.evalEvents env s2 rest
        else Sem.evalEvents env s1 rest := by
  rw [Sem.evalEvents, flagRes]
  cases Sem.evalE env s ev.flag <;> rfl

/-- **Stage 3b.** The expression loop of the machine on the lowered events computes `evalEvents`. The lowered
instructions sit at offset `idx` of the program's instruction list (`pre` before, `post` after). Per event: the
condition (`lowerFlag_agrees`), then by its value either the next event, or the body (`lowerBody_agrees`) and the
break rule, which both sides decide alike because the body left the flag alone -/
theorem lowerEvents_agrees {ρ : Rho} {decls : List Sem.VarDecl} (hρ : RhoOk ρ decls) (env : Env) (p : Program)
    (post : List VInstr) :
    ∀ (evs : List Event), InOracle evs = true → LitsOk evs = true → WritesOk evs = true →
      ∀ (idx : Nat) (lp : LP) (pre : List VInstr), lowerEvents ρ evs idx = some lp →
      p.instrs = pre ++ lp.instrs ++ post → pre.length = idx → TmpsOk lp.instrs →
      ∀ (s : Sem.SrcState) (c : Conn), Sim ρ s c → RegsWf c →
        Agrees ρ (fun _ _ _ => True) (Sem.evalEvents env s evs) (execExprs env p c lp.exprs) := by
  intro evs
  induction evs with
  | nil =>
    intro _ _ _ idx lp pre hlow _ _ _ s c sim wf
    rw [lowerEvents] at hlow; cases hlow
    exact ⟨rfl, sim, wf, trivial⟩
  | cons ev rest ih =>
    intro hin hlits hwr idx lp pre hlow hp hpre ht s c sim wf
    obtain ⟨fi, bi, tail, hfi, hbi, htail, rfl⟩ := lowerEvents_cons_inv hlow
    simp only [InOracle, LitsOk, WritesOk, List.all_cons, Bool.and_eq_true] at hin hlits hwr
    simp only at hp ht ⊢
    obtain ⟨ht12, htt⟩ := TmpsOk.append ht
    obtain ⟨htf, htb⟩ := TmpsOk.append ht12
    have hsf : sliceInstrs p idx fi.length = fi :=
      slice_mid (a := pre) (b := bi ++ tail.instrs ++ post) (by rw [hp]; simp [List.append_assoc]) hpre rfl
    have hsb : sliceInstrs p (idx + fi.length) bi.length = bi :=
      slice_mid (a := pre ++ fi) (b := tail.instrs ++ post) (by rw [hp]; simp [List.append_assoc])
        (by simp [hpre]) rfl
    have ihc := fun s c (sim : Sim ρ s c) (wf : RegsWf c) =>
      ih (by simpa only [InOracle] using hin.2) (by simpa only [LitsOk] using hlits.2)
        (by simpa only [WritesOk] using hwr.2) (idx + fi.length + bi.length) tail (pre ++ fi ++ bi) htail
        (by rw [hp]; simp [List.append_assoc]) (by simp [hpre]; omega) htt s c sim wf
    rw [evalEvents_cons]
    rcases (lowerFlag_agrees hρ hin.1.1 hlits.1.1 hfi htf env s c sim wf).cases with
      ⟨s1, v, c1, ev1, x1, sim1, wf1, hv1, h0⟩ | ⟨s1, rc, c1, ev1, hrc, x1, sim1, wf1⟩ | ev1 <;> rw [ev1]
    · rw [andThen_ok]
      by_cases hv : v = 0
      · have hx := execExprs_continue tail.exprs
          (execExpr_flag_false (e := ⟨idx, fi.length, idx + fi.length, bi.length⟩) hsf x1 (h0.trans hv))
          (.inl (h0.trans hv))
        rw [hx, if_neg (by simp [hv])]
        exact ihc s1 c1 sim1 wf1
      · rw [if_pos (by simp [hv])]
        have hxe := execExpr_flag_true (e := ⟨idx, fi.length, idx + fi.length, bi.length⟩) hsf hsb x1 (by rw [h0]; exact hv)
        rcases (lowerBody_agrees hρ env ev.body bi hin.1.2 hlits.1.2 hwr.1 hbi htb s1 c1 sim1 wf1).cases with
          ⟨s2, _, c2, ev2, x2, sim2, wf2, hev2⟩ | ⟨s2, rc, c2, ev2, hrc, x2, sim2, wf2⟩ | ev2 <;> rw [ev2]
        · rw [andThen_ok]
          have hc2 := Sim.toC hρ sim2
          have h20 : c2.regs.impl.getD 0 0 ≠ 0 := by rw [hc2.ev, hev2, hv1]; exact hv
          by_cases hcont : s2.cont = 0
          · rw [if_pos (by simp [hcont]), execExprs_break _ (hxe.trans x2) h20 (hc2.cont.trans hcont)]
            exact ⟨rfl, sim2, wf2, trivial⟩
          · rw [if_neg (by simp [hcont]), execExprs_continue _ (hxe.trans x2) (.inr (by rw [hc2.cont]; exact hcont))]
            exact ihc s2 c2 sim2 wf2
        · rw [andThen_fault, execExprs_fault _ (hxe.trans x2) hrc]
          exact ⟨hrc, rfl, sim2, wf2⟩
        · trivial
    · rw [andThen_fault, execExprs_fault _ (execExpr_flag_fault hsf x1 hrc) hrc]
      exact ⟨hrc, rfl, sim1, wf1⟩
    · trivial

/-- stage 3b (`lowerEvents_agrees`) as a `match` -/
theorem lowerEvents_correct {ρ : Rho} {decls : List Sem.VarDecl} (hρ : RhoOk ρ decls) (evs : List Event)
    (hstrat : InOracle evs = true) (hlits : LitsOk evs = true) (hwr : WritesOk evs = true)
    (idx : Nat) (lp : LP) (hlow : lowerEvents ρ evs idx = some lp)
    (p : Program) (pre post : List VInstr) (hp : p.instrs = pre ++ lp.instrs ++ post) (hpre : pre.length = idx)
    (ht : TmpsOk lp.instrs) (env : Env) (s : Sem.SrcState) (c : Conn) (sim : Sim ρ s c) (wf : RegsWf c) :
    match Sem.evalEvents env s evs with
    | .ok s' _ => ∃ c', execExprs env p c lp.exprs = (c', 0) ∧ Sim ρ s' c' ∧ RegsWf c'
    | .fault s' rc => rc < 0 ∧ ∃ c', execExprs env p c lp.exprs = (c', rc) ∧ Sim ρ s' c' ∧ RegsWf c'
    | .outside => True
    | .notDenoted => False := by
  have h := lowerEvents_agrees hρ env p post evs hstrat hlits hwr idx lp pre hlow hp hpre ht s c sim wf
  generalize Sem.evalEvents env s evs = res at h
  cases res with
  | ok s' v => exact ⟨_, Prod.ext rfl h.1, h.2.1, h.2.2.1⟩
  | fault s' rc => exact ⟨h.1, _, Prod.ext rfl h.2.1, h.2.2.1, h.2.2.2⟩
  | outside => trivial
  | notDenoted => exact h

def declCls (d : Sem.VarDecl) : Nat :=
  if d.isReport then (if d.vol then 5 else 6) else (if d.vol then 8 else 0)

/-- a declared variable sits in the class its kind prescribes, at an index inside the register file -/
theorem decl_vreg {ρ : Rho} {decls : List Sem.VarDecl} (hρ : RhoOk ρ decls) {d : Sem.VarDecl} (hd : d ∈ decls) :
    ∃ k, ρ d.name = some ⟨declCls d, k⟩ ∧ k < 110 := by
  have hnb := hρ.declNames d hd
  cases hrep : d.isReport with
  | true =>
    have hm : d ∈ decls.filter (·.isReport) := List.mem_filter.mpr ⟨hd, hrep⟩
    obtain ⟨k, hk, hkd⟩ := List.mem_iff_getElem.mp hm
    have h := hρ.reports k hk
    rw [hkd] at h
    have hv := hρ.vars _ _ h hnb
    refine ⟨k, by simpa [declCls, hrep] using h, ?_⟩
    simp only at hv; omega
  | false =>
    have hm : d ∈ decls.filter (!·.isReport) := List.mem_filter.mpr ⟨hd, by simp [hrep]⟩
    obtain ⟨k, hk, hkd⟩ := List.mem_iff_getElem.mp hm
    have h := hρ.controls k hk
    rw [hkd] at h
    have hv := hρ.vars _ _ h hnb
    refine ⟨k, by simpa [declCls, hrep] using h, ?_⟩
    simp only at hv; omega

theorem mkDef_left {ρ : Rho} {d : Sem.VarDecl} {r : VReg} (h : ρ d.name = some r) : (mkDef ρ d).left = r := by
  simp [mkDef, h]

theorem defValue_mkDef {ρ : Rho} {decls : List Sem.VarDecl} (hρ : RhoOk ρ decls) {d : Sem.VarDecl} (hd : d ∈ decls) :
    defValue (mkDef ρ d) = d.init := by
  have h := (hρ.inits d hd).2
  show (if d.init.toNat = 0x3fffffff then U32MAX else UInt64.ofNat d.init.toNat) = d.init
  rw [if_neg h, UInt64.ofNat_toNat]

theorem defPreamble_append (defs rest : List VInstr) (hd : ∀ i ∈ defs, i.op = 2)
    (hr : ∀ i, rest.head? = some i → i.op ≠ 2) : defPreamble (defs ++ rest) = defs := by
  induction defs with
  | nil =>
    cases rest with
    | nil => rfl
    | cons i rest => simp [defPreamble, hr i rfl]
  | cons i defs ih =>
    simp only [List.cons_append, defPreamble, hd i (List.mem_cons_self ..), if_true]
    rw [ih (fun j hj => hd j (List.mem_cons_of_mem _ hj))]

theorem AluOp.ne2 {op : Nat} (h : AluOp op) : op ≠ 2 := by unfold AluOp at h; omega

theorem lowerEvents_head {ρ : Rho} {decls : List Sem.VarDecl} (hρ : RhoOk ρ decls) {evs : List Event} {idx : Nat}
    {lp : LP} (h : lowerEvents ρ evs idx = some lp) (hne : evs ≠ []) :
    lp.instrs ≠ [] ∧ ∀ i, lp.instrs.head? = some i → i.op ≠ 2 := by
  cases evs with
  | nil => exact absurd rfl hne
  | cons ev rest =>
    obtain ⟨fi, bi, tail, hfi, _, _, rfl⟩ := lowerEvents_cons_inv h
    obtain ⟨hfne, hops⟩ := lowerFlag_shape hρ hfi
    cases fi with
    | nil => exact absurd rfl hfne
    | cons i fi' =>
      refine ⟨by simp, fun j hj => ?_⟩
      simp only [List.cons_append, List.head?_cons, Option.some.injEq] at hj
      subst hj
      exact hops _ (List.mem_cons_self ..)

theorem defs_mkDef {ρ : Rho} {decls : List Sem.VarDecl} {defs : List VInstr} (hd : DefsFor ρ decls defs) :
    ∀ i ∈ defs, ∃ d ∈ decls, i = mkDef ρ d :=
  fun _ hi => (List.mem_map.mp (hd.mem_iff.mp hi)).imp fun _ h => ⟨h.1, h.2.symm⟩

theorem numToReturn_lower {ρ : Rho} {decls : List Sem.VarDecl} (hρ : RhoOk ρ decls) {defs : List VInstr}
    (hd : DefsFor ρ decls defs) {evs : List Event} {lpe : LP}
    (h : lowerEvents ρ evs defs.length = some lpe) (hne : evs ≠ []) :
    defPreamble (defs ++ lpe.instrs) = defs ∧
    numToReturn (defs ++ lpe.instrs) = (decls.filter (·.isReport)).length := by
  obtain ⟨hnil, hhead⟩ := lowerEvents_head hρ h hne
  have hpre : defPreamble (defs ++ lpe.instrs) = defs :=
    defPreamble_append defs lpe.instrs (fun i hi => by obtain ⟨d, _, rfl⟩ := defs_mkDef hd i hi; rfl) hhead
  refine ⟨hpre, ?_⟩
  have hlen : defs.length ≠ (defs ++ lpe.instrs).length := by
    have : lpe.instrs.length ≠ 0 := fun h0 => hnil (List.eq_nil_of_length_eq_zero h0)
    simp only [List.length_append]; omega
  unfold numToReturn
  rw [hpre, if_neg hlen, (hd.filter _).length_eq, List.filter_map, List.length_map]
  congr 1
  apply List.filter_congr
  intro d hdm
  obtain ⟨k, hk, _⟩ := decl_vreg hρ hdm
  simp only [Function.comp, mkDef_left hk, declCls]
  cases d.isReport <;> cases d.vol <;> simp

/-- the shape of `resetState` / `initRegisterState`: write the DEF value of the selected DEFs -/
def defFold (env : Env) (P : VInstr → Prop) [DecidablePred P] (l : List VInstr) (c : Conn) : Conn :=
  l.foldl (fun c i => if P i then writeReg env c (defValue i) i.left else c) c

theorem defFold_nil (env : Env) (P : VInstr → Prop) [DecidablePred P] (c : Conn) : defFold env P [] c = c := rfl

theorem defFold_cons (env : Env) (P : VInstr → Prop) [DecidablePred P] (i : VInstr) (l : List VInstr) (c : Conn) :
    defFold env P (i :: l) c = defFold env P l (if P i then writeReg env c (defValue i) i.left else c) := rfl

theorem resetState_eq (env : Env) (p : Program) (c : Conn) :
    resetState env p c = defFold env (fun i => i.left.cls = 5 ∨ i.left.cls = 8) (defPreamble p.instrs) c := rfl

theorem initRegisterState_eq (env : Env) (p : Program) (c : Conn) :
    initRegisterState env p c = defFold env (fun i => i.left.cls = 0 ∨ i.left.cls = 6) (defPreamble p.instrs) c := rfl

theorem defFold_inv (env : Env) (P : VInstr → Prop) [DecidablePred P] (Q : Conn → Prop) (l : List VInstr) (c : Conn)
    (h0 : Q c) (step : ∀ i ∈ l, P i → ∀ c', Q c' → Q (writeReg env c' (defValue i) i.left)) : Q (defFold env P l c) :=
  List.foldlRecOn l _ h0 fun c' h i hi => by
    split
    · exact step i hi ‹_› c' h
    · exact h

theorem defFold_wf (env : Env) (P : VInstr → Prop) [DecidablePred P] (l : List VInstr) (c : Conn)
    (wf : RegsWf c) : RegsWf (defFold env P l c) :=
  defFold_inv env P RegsWf l c wf fun _ _ _ _ h => writeReg_wf _ _ _ _ h

theorem writeReg_rc (env : Env) (c : Conn) (v : Val) (r : VReg)
    (h : r.cls = 0 ∨ r.cls = 5 ∨ r.cls = 6 ∨ r.cls = 8) :
    (writeReg env c v r).regs.impl = c.regs.impl ∧ (writeReg env c v r).t0 = c.t0 := by
  obtain ⟨f, hf, hc⟩ := cell_rc h
  refine ⟨(writeReg_frame env c v hc).1 .impl ?_, writeReg_t0 env c v r (fun h2 => by rw [hc] at h2; rcases hf with rfl | rfl <;> cases h2)⟩
  rcases hf with rfl | rfl <;> decide

theorem defFold_frame (env : Env) (P : VInstr → Prop) [DecidablePred P]
    (hP : ∀ i, P i → i.left.cls = 0 ∨ i.left.cls = 5 ∨ i.left.cls = 6 ∨ i.left.cls = 8)
    (l : List VInstr) (c : Conn) :
    (defFold env P l c).regs.impl = c.regs.impl ∧ (defFold env P l c).t0 = c.t0 :=
  defFold_inv env P (fun c' => c'.regs.impl = c.regs.impl ∧ c'.t0 = c.t0) l c ⟨rfl, rfl⟩ fun i _ hi c' h =>
    have g := writeReg_rc env c' (defValue i) i.left (hP i hi)
    ⟨g.1.trans h.1, g.2.trans h.2⟩

theorem defFold_other (env env' : Env) (P : VInstr → Prop) [DecidablePred P] (r : VReg)
    (l : List VInstr) (c : Conn) (h : ∀ i ∈ l, P i → ¬ sameCell i.left r) :
    readReg env' (defFold env P l c) r = readReg env' c r :=
  defFold_inv env P (fun c' => readReg env' c' r = readReg env' c r) l c rfl fun i hi hPi _ hc =>
    (readReg_writeReg_ne _ _ _ _ _ _ (h i hi hPi)).trans hc

theorem defFold_self (env env' : Env) (P : VInstr → Prop) [DecidablePred P]
    (l : List VInstr) (c : Conn) (wf : RegsWf c) (hpw : l.Pairwise fun a b => ¬ sameCell a.left b.left)
    (i : VInstr) (hi : i ∈ l) (hPi : P i) (hcell : Writable i.left) :
    readReg env' (defFold env P l c) i.left = defValue i := by
  induction l generalizing c with
  | nil => cases hi
  | cons j l ih =>
    rw [defFold_cons]
    rw [List.pairwise_cons] at hpw
    rcases List.mem_cons.mp hi with rfl | hil
    · rw [defFold_other _ _ _ _ _ _ (fun b hb _ hs => hpw.1 b hb (sameCell_symm hs))]
      simp only [hPi, if_true]
      exact readReg_writeReg_self _ _ _ _ _ wf hcell
    · exact ih _ (defFold_wf env P [j] c wf) hpw.2 hil

theorem srcFold_other (l : List Sem.VarDecl) (P : Sem.VarDecl → Bool) (vs : List (Name × Val)) (x : Name)
    (h : ∀ d ∈ l, P d = true → d.name ≠ x) :
    Sem.lookupVar (l.foldl (fun vs d => if P d then Sem.setVar vs d.name d.init else vs) vs) x =
      Sem.lookupVar vs x :=
  List.foldlRecOn l _ (motive := fun vs' => Sem.lookupVar vs' x = Sem.lookupVar vs x) rfl fun vs' hv d hd => by
    split
    · rename_i hP
      rw [lookupVar_setVar, if_neg (fun e => h d hd hP e.symm), hv]
    · exact hv

theorem srcFold_self (l : List Sem.VarDecl) (P : Sem.VarDecl → Bool) (vs : List (Name × Val))
    (hnd : (l.map (·.name)).Nodup) (d : Sem.VarDecl) (hd : d ∈ l) (hP : P d = true) :
    Sem.lookupVar (l.foldl (fun vs d => if P d then Sem.setVar vs d.name d.init else vs) vs) d.name = d.init := by
  induction l generalizing vs with
  | nil => cases hd
  | cons e l ih =>
    rw [List.foldl_cons]
    rw [List.map_cons, List.nodup_cons] at hnd
    rcases List.mem_cons.mp hd with rfl | hdl
    · rw [srcFold_other l P _ _ (fun d' hd' _ e => hnd.1 (List.mem_map.mpr ⟨d', hd', e⟩))]
      simp only [hP, if_true]
      rw [lookupVar_setVar, if_pos rfl]
    · exact ih _ hnd.2 hdl

theorem defs_pairwise {ρ : Rho} {decls : List Sem.VarDecl} (hρ : RhoOk ρ decls) {defs : List VInstr}
    (hd : DefsFor ρ decls defs) : defs.Pairwise fun a b => ¬ sameCell a.left b.left := by
  rw [List.Perm.pairwise_iff (fun {a b} h hs => h (sameCell_symm hs)) hd, List.pairwise_map]
  refine (List.pairwise_map.mp hρ.declNodup).imp_of_mem ?_
  intro a b ha hb hne hs
  obtain ⟨ka, hka, _⟩ := decl_vreg hρ ha
  obtain ⟨kb, hkb, _⟩ := decl_vreg hρ hb
  rw [mkDef_left hka, mkDef_left hkb] at hs
  exact hne (hρ.inj _ _ _ _ hka hkb hs)

theorem defFold_decl {ρ : Rho} {decls : List Sem.VarDecl} (hρ : RhoOk ρ decls) {defs : List VInstr}
    (hd : DefsFor ρ decls defs) (env env' : Env) (P : VInstr → Prop) [DecidablePred P] (c : Conn) (wf : RegsWf c)
    {d : Sem.VarDecl} (hdm : d ∈ decls) (hP : P (mkDef ρ d)) {r : VReg} (hr : ρ d.name = some r) :
    readReg env' (defFold env P defs c) r = d.init := by
  obtain ⟨k, hk, hk110⟩ := decl_vreg hρ hdm
  have hmem : mkDef ρ d ∈ defs := (List.Perm.mem_iff hd).mpr (List.mem_map_of_mem hdm)
  have := defFold_self env env' P defs c wf (defs_pairwise hρ hd) (mkDef ρ d) hmem hP
    (by
      rw [mkDef_left hk]
      unfold declCls
      cases d.isReport <;> cases d.vol <;> exact ⟨_, rfl, hk110⟩)
  rw [mkDef_left hr, defValue_mkDef hρ hdm] at this
  exact this

theorem defFold_nondecl {ρ : Rho} {decls : List Sem.VarDecl} (hρ : RhoOk ρ decls) {defs : List VInstr}
    (hd : DefsFor ρ decls defs) (env env' : Env) (P : VInstr → Prop) [DecidablePred P] (c : Conn)
    {x : Name} {r : VReg} (hr : ρ x = some r) (hx : ∀ d ∈ decls, P (mkDef ρ d) → d.name ≠ x) :
    readReg env' (defFold env P defs c) r = readReg env' c r := by
  apply defFold_other
  intro i hi hPi hs
  obtain ⟨d, hdm, rfl⟩ := defs_mkDef hd i hi
  obtain ⟨k, hk, _⟩ := decl_vreg hρ hdm
  rw [mkDef_left hk] at hs
  exact hx d hdm hPi (hρ.inj _ _ _ _ hk hr hs)

theorem mkDef_cls {ρ : Rho} {decls : List Sem.VarDecl} (hρ : RhoOk ρ decls) {d : Sem.VarDecl} (hdm : d ∈ decls) :
    (((mkDef ρ d).left.cls = 5 ∨ (mkDef ρ d).left.cls = 8) ↔ d.vol = true) ∧
    (((mkDef ρ d).left.cls = 0 ∨ (mkDef ρ d).left.cls = 6) ↔ d.vol = false) := by
  obtain ⟨k, hk, _⟩ := decl_vreg hρ hdm
  rw [mkDef_left hk]
  simp only [declCls]
  cases d.isReport <;> cases d.vol <;> simp

/-- `reset_state` after a report matches re-initialising the volatile variables in the source -/
theorem reset_sim {ρ : Rho} {decls : List Sem.VarDecl} (hρ : RhoOk ρ decls) {defs : List VInstr}
    (hd : DefsFor ρ decls defs) (env : Env) {s : Sem.SrcState} {c : Conn} (sim : Sim ρ s c) (wf : RegsWf c) :
    Sim ρ { s with vars := decls.foldl (fun vs d => if d.vol then Sem.setVar vs d.name d.init else vs) s.vars }
      (defFold env (fun i => i.left.cls = 5 ∨ i.left.cls = 8) defs c) ∧
    RegsWf (defFold env (fun i => i.left.cls = 5 ∨ i.left.cls = 8) defs c) := by
  refine ⟨?_, defFold_wf _ _ _ _ wf⟩
  have hc := Sim.toC hρ sim
  obtain ⟨f1, f4⟩ := defFold_frame env (fun i => i.left.cls = 5 ∨ i.left.cls = 8)
    (fun i hi => by omega) defs c
  apply SimC.toSim hρ
  refine ⟨f4.trans hc.t0, by rw [f1]; exact hc.ev, by rw [f1]; exact hc.cont, by rw [f1]; exact hc.rep,
    by rw [f1]; exact hc.micros, by rw [f1]; exact hc.cwnd, by rw [f1]; exact hc.rate, ?_⟩
  intro env' x r hr hnb
  simp only
  by_cases hex : ∃ d ∈ decls, d.vol = true ∧ d.name = x
  · obtain ⟨d, hdm, hvol, rfl⟩ := hex
    rw [defFold_decl hρ hd env env' _ c wf hdm ((mkDef_cls hρ hdm).1.mpr hvol) hr]
    exact (srcFold_self decls (·.vol) s.vars hρ.declNodup d hdm hvol).symm
  · have hx : ∀ d ∈ decls, d.vol = true → d.name ≠ x := fun d hdm hv e => hex ⟨d, hdm, hv, e⟩
    rw [defFold_nondecl hρ hd env env' _ c hr (fun d hdm hP => hx d hdm ((mkDef_cls hρ hdm).1.mp hP)),
      srcFold_other decls (·.vol) s.vars x hx]
    exact hc.vars env' x r hr hnb

/-- the report sent: the report variables in slot order -/
theorem report_vals {ρ : Rho} {decls : List Sem.VarDecl} (hρ : RhoOk ρ decls) {s : Sem.SrcState} {c : Conn}
    (sim : Sim ρ s c) (wf : RegsWf c) :
    c.regs.report.take (decls.filter (·.isReport)).length =
      (decls.filter (·.isReport)).map fun d => Sem.lookupVar s.vars d.name := by
  have hc := Sim.toC hρ sim
  have hnb : ∀ k (hk : k < (decls.filter (·.isReport)).length), isBuiltinName (decls.filter (·.isReport))[k].name = false :=
    fun k hk => hρ.declNames _ (List.mem_filter.mp (List.getElem_mem hk)).1
  have hbound : ∀ k, k < (decls.filter (·.isReport)).length → k < 110 := by
    intro k hk
    have := hρ.vars _ _ (hρ.reports k hk) (hnb k hk)
    simp only at this; omega
  have hlen : (decls.filter (·.isReport)).length ≤ c.regs.report.length :=
    Nat.le_trans (Nat.le_of_not_lt fun h => Nat.lt_irrefl _ (hbound 110 h)) wf.1
  apply List.ext_getElem
  · simp only [List.length_take, List.length_map]; omega
  · intro k h1 h2
    simp only [List.length_map] at h2
    have hv := hc.vars env0 _ _ (hρ.reports k h2) (hnb k h2)
    rw [List.getElem_take, List.getElem_map, ← hv]
    have hk : k < c.regs.report.length := by omega
    have : readReg env0 c ⟨if (decls.filter (·.isReport))[k].vol then 5 else 6, k⟩ = c.regs.report.getD k 0 := by
      cases (decls.filter (·.isReport))[k].vol <;> rfl
    rw [this, List.getD_eq_getElem?_getD, List.getElem?_eq_getElem hk]
    rfl

/-- the machine state when the expression loop starts (`vmInvoke` + the head of `stateMachine`) -/
def vmPrologue (env : Env) (c : Conn) : Conn :=
  let c : Conn := { c with regs := { c.regs with impl := (c.regs.impl.set 4 (env.prims.sndCwnd.toUInt32.toUInt64)).set 5 env.prims.sndRate } }
  let c : Conn := { c with regs := { c.regs with impl := ((c.regs.impl.set 0 0).set 1 0).set 2 0 } }
  { c with regs := { c.regs with impl := c.regs.impl.set 3 (env.now - c.t0) } }

def srcPrologue (env : Env) (s : Sem.SrcState) : Sem.SrcState :=
  { s with ev := 0, cont := 0, rep := 0, cwnd := env.prims.sndCwnd.toUInt32.toUInt64, rate := env.prims.sndRate,
           micros := env.now - s.t0 }

theorem prologue_impl (l : List Val) (a b m : Val) (h : 6 ≤ l.length) :
    ∃ rest, (((((l.set 4 a).set 5 b).set 0 0).set 1 0).set 2 0).set 3 m = 0 :: 0 :: 0 :: m :: a :: b :: rest := by
  rcases l with _ | ⟨_, _ | ⟨_, _ | ⟨_, _ | ⟨_, _ | ⟨_, _ | ⟨_, rest⟩⟩⟩⟩⟩⟩
  iterate 6 exact absurd h (by simp)
  exact ⟨rest, rfl⟩

theorem readReg_varCell {r : VReg} (hr : VarCell r) (env env' : Env) {c c' : Conn}
    (h1 : c'.regs.report = c.regs.report) (h2 : c'.regs.control = c.regs.control) (h3 : c'.regs.loc = c.regs.loc) :
    readReg env' c' r = readReg env c r := by
  obtain ⟨f, hf, hc, -⟩ := hr
  apply readReg_congr env env' hc
  rcases hf with rfl | rfl | rfl <;> assumption

theorem prologue_sim {ρ : Rho} {decls : List Sem.VarDecl} (hρ : RhoOk ρ decls) (env : Env) {s : Sem.SrcState}
    {c : Conn} (sim : Sim ρ s c) (wf : RegsWf c) :
    Sim ρ (srcPrologue env s) (vmPrologue env c) ∧ RegsWf (vmPrologue env c) := by
  have hc := Sim.toC hρ sim
  obtain ⟨w1, w2, w3, w4, w5⟩ := wf
  obtain ⟨rest, e⟩ := prologue_impl c.regs.impl (env.prims.sndCwnd.toUInt32.toUInt64) env.prims.sndRate
    (env.now - c.t0) w3
  have e : (vmPrologue env c).regs.impl = _ := e
  constructor
  · apply SimC.toSim hρ
    refine ⟨hc.t0, by rw [e]; rfl, by rw [e]; rfl, by rw [e]; rfl, by rw [e, hc.t0]; rfl, by rw [e]; rfl,
      by rw [e]; rfl, ?_⟩
    intro env' x r hr hnb
    rw [readReg_varCell (.of_vars (hρ.vars x r hr hnb)) env' env' (c := c) (c' := vmPrologue env c) rfl rfl rfl]
    exact hc.vars env' x r hr hnb
  · simp only [RegsWf, vmPrologue, List.length_set]
    exact ⟨w1, w2, w3, w4, w5⟩

theorem srcInvoke_eq (decls : List Sem.VarDecl) (evs : List Event) (env : Env) (s : Sem.SrcState) :
    Sem.invoke decls evs env s =
      match Sem.evalEvents env (srcPrologue env s) evs with
      | .fault s' rc => (s', .fault rc)
      | .notDenoted => (srcPrologue env s, .outside)
      | .outside => (srcPrologue env s, .outside)
      | .ok s' _ =>
        let cw := if s'.cwnd > 0 then some s'.cwnd else none
        let rt := if s'.rate != 0 then some s'.rate else none
        if s'.rep != 0 then
          let vals := (decls.filter (·.isReport)).map fun d => Sem.lookupVar s'.vars d.name
          let vars := decls.foldl (fun vs d => if d.vol then Sem.setVar vs d.name d.init else vs) s'.vars
          ({ s' with vars := vars }, .done cw rt (some vals))
        else (s', .done cw rt none) := rfl

theorem vmInvoke_eq (p : Program) (env : Env) (c : Conn) :
    vmInvoke p env c =
      let r := execExprs env p (vmPrologue env c) p.exprs
      if r.2 < 0 then (r.1, { rc := r.2, setCwnd := none, setRate := none, report := none })
      else
        let c' := r.1
        let cw := c'.regs.impl.getD 4 0
        let rt := c'.regs.impl.getD 5 0
        if c'.regs.impl.getD 2 0 != 0 then
          (resetState env p c', { rc := 0, setCwnd := if cw > 0 then some cw else none,
                                  setRate := if rt != 0 then some rt else none,
                                  report := some (p.uid, c'.regs.report.take p.numToReturn) })
        else (c', { rc := 0, setCwnd := if cw > 0 then some cw else none,
                    setRate := if rt != 0 then some rt else none, report := none }) := rfl

/-- **Stage 4.** One invocation of the lowered program on the machine shows what the source
semantics shows (unless the source leaves the fragment), and the simulation is re-established. -/
theorem invoke_correct {ρ : Rho} {decls : List Sem.VarDecl} (hρ : RhoOk ρ decls) {defs : List VInstr}
    (hd : DefsFor ρ decls defs) {evs : List Event} (hne : evs ≠ []) (hstrat : InOracle evs = true)
    (hlits : LitsOk evs = true) (hwr : WritesOk evs = true) {lp : LP} (hlow : lowerProg ρ defs evs = some lp)
    (ht : TmpsOk lp.instrs) (u : Nat) (env : Env) (s : Sem.SrcState) (c : Conn) (sim : Sim ρ s c) (wf : RegsWf c) :
    ofSem (Sem.invoke decls evs env s).2 = none ∨
    (ofSem (Sem.invoke decls evs env s).2 = some (ofVm (vmInvoke (mkProg u lp) env c).2) ∧
      Sim ρ (Sem.invoke decls evs env s).1 (vmInvoke (mkProg u lp) env c).1 ∧
      RegsWf (vmInvoke (mkProg u lp) env c).1) := by
  unfold lowerProg at hlow
  obtain ⟨lpe, hlpe, rfl⟩ := Option.map_eq_some_iff.mp hlow
  obtain ⟨hpre, hnum⟩ := numToReturn_lower hρ hd hlpe hne
  obtain ⟨sim0, wf0⟩ := prologue_sim hρ env sim wf
  have hte : TmpsOk lpe.instrs := (TmpsOk.append ht).2
  -- `lpe.exprs` written as the `exprs` of the program, which is how `vmInvoke_eq` has it
  have hres : Agrees ρ (fun _ _ _ => True) (Sem.evalEvents env (srcPrologue env s) evs)
      (execExprs env (mkProg u ⟨lpe.exprs, defs ++ lpe.instrs⟩) (vmPrologue env c)
        (mkProg u ⟨lpe.exprs, defs ++ lpe.instrs⟩).exprs) :=
    lowerEvents_agrees hρ env (mkProg u ⟨lpe.exprs, defs ++ lpe.instrs⟩) [] evs hstrat hlits hwr
      defs.length lpe defs hlpe (by simp [mkProg]) rfl hte _ _ sim0 wf0
  rw [srcInvoke_eq, vmInvoke_eq]
  rcases hres.cases with ⟨s', _, c', ev, x, sim', wf', -⟩ | ⟨s', rc, c', ev, hrc, x, sim', wf'⟩ | ev
  · right
    have hc := Sim.toC hρ sim'
    rw [ev, x]
    simp only [Int.lt_irrefl, if_false, hc.cwnd, hc.rate, hc.rep]
    by_cases hrep : (s'.rep != 0) = true
    · simp only [hrep, if_true]
      refine ⟨?_, ?_⟩
      · simp only [ofSem, ofVm, Int.lt_irrefl, if_false, Option.map_some, mkProg, hnum, report_vals hρ sim' wf']
      · rw [resetState_eq]
        simp only [mkProg, hpre]
        exact reset_sim hρ hd env sim' wf'
    · simp only [hrep]
      exact ⟨by simp [ofSem, ofVm], sim', wf'⟩
  · right
    rw [ev, x]
    simp only [hrc, if_true]
    exact ⟨by simp [ofSem, ofVm, hrc], sim', wf'⟩
  · left
    rw [ev]; rfl

/-- **Stage 5.** Every run of the lowered program shows the observations of the source semantics,
as long as the source semantics stays inside the fragment. -/
theorem lower_run_correct {ρ : Rho} {decls : List Sem.VarDecl} (hρ : RhoOk ρ decls) {defs : List VInstr}
    (hd : DefsFor ρ decls defs) {evs : List Event} (hne : evs ≠ []) (hstrat : InOracle evs = true)
    (hlits : LitsOk evs = true) (hwr : WritesOk evs = true) {lp : LP} (hlow : lowerProg ρ defs evs = some lp)
    (ht : TmpsOk lp.instrs) (u : Nat) (inputs : List Env) (s : Sem.SrcState) (c : Conn) (sim : Sim ρ s c)
    (wf : RegsWf c) :
    match (Sem.run decls evs s inputs).mapM ofSem with
    | none => True
    | some exp => (vmRun (mkProg u lp) c inputs).map ofVm = exp := by
  induction inputs generalizing s c with
  | nil => simp [Sem.run, vmRun]
  | cons env rest ih =>
    simp only [Sem.run, vmRun, List.mapM_cons, List.map_cons]
    rcases invoke_correct hρ hd hne hstrat hlits hwr hlow ht u env s c sim wf with h | ⟨h, sim', wf'⟩
    · rw [h]; trivial
    · rw [h]
      have := ih _ _ sim' wf'
      cases hm : (Sem.run decls evs (Sem.invoke decls evs env s).1 rest).mapM ofSem with
      | none => trivial
      | some exp' =>
        rw [hm] at this
        simp [this]

theorem lookupVar_init_self (decls : List Sem.VarDecl) (hnd : (decls.map (·.name)).Nodup) (d : Sem.VarDecl)
    (hd : d ∈ decls) : Sem.lookupVar (decls.map fun d => (d.name, d.init)) d.name = d.init := by
  induction decls with
  | nil => cases hd
  | cons e l ih =>
    rw [List.map_cons, List.nodup_cons] at hnd
    rw [List.map_cons, lookupVar_cons]
    rcases List.mem_cons.mp hd with rfl | hdl
    · simp
    · have : e.name ≠ d.name := fun h => hnd.1 (List.mem_map.mpr ⟨d, hdl, h.symm⟩)
      simp only [this, if_false]
      exact ih hnd.2 hdl

theorem lookupVar_init_other (decls : List Sem.VarDecl) (x : Name) (h : ∀ d ∈ decls, d.name ≠ x) :
    Sem.lookupVar (decls.map fun d => (d.name, d.init)) x = 0 := by
  unfold Sem.lookupVar
  rw [List.find?_eq_none.mpr (List.forall_mem_map.mpr fun d hd hp => h d hd (of_decide_eq_true hp))]

theorem getD_replicate_zero (n i : Nat) : (List.replicate n (0 : Val)).getD i 0 = 0 := by
  rw [List.getD_eq_getElem?_getD, List.getElem?_replicate]; split <;> rfl

/-- **Program switch.** After `reset_state` + `init_register_state` on zeroed registers, with the clock
origin set, the machine represents the initial source state. -/
theorem switch_sim {ρ : Rho} {decls : List Sem.VarDecl} (hρ : RhoOk ρ decls) {defs : List VInstr}
    (hd : DefsFor ρ decls defs) {evs : List Event} (hne : evs ≠ []) {lp : LP}
    (hlow : lowerProg ρ defs evs = some lp) (u : Nat) (env : Env) (c0 : Conn) (h0 : c0.regs = Regs.zero)
    (now : Val) :
    let c1 := initRegisterState env (mkProg u lp) (resetState env (mkProg u lp) c0)
    let c : Conn := { c1 with t0 := now, regs := { c1.regs with impl := c1.regs.impl.set 3 0 } }
    Sim ρ (Sem.initState decls now) c ∧ RegsWf c := by
  intro c1 c
  unfold lowerProg at hlow
  obtain ⟨lpe, hlpe, rfl⟩ := Option.map_eq_some_iff.mp hlow
  obtain ⟨hpre, _⟩ := numToReturn_lower hρ hd hlpe hne
  have hc1 : c1 = defFold env (fun i => i.left.cls = 0 ∨ i.left.cls = 6) defs
      (defFold env (fun i => i.left.cls = 5 ∨ i.left.cls = 8) defs c0) := by
    show initRegisterState env _ (resetState env _ c0) = _
    rw [initRegisterState_eq, resetState_eq]
    simp only [mkProg, hpre]
  have wf0 : RegsWf c0 := by simp [RegsWf, h0, Regs.zero]
  have wfr := defFold_wf env (fun i => i.left.cls = 5 ∨ i.left.cls = 8) defs c0 wf0
  have wf1 : RegsWf c1 := by rw [hc1]; exact defFold_wf _ _ _ _ wfr
  obtain ⟨a1, -⟩ := defFold_frame env (fun i => i.left.cls = 5 ∨ i.left.cls = 8) (fun i hi => by omega) defs c0
  obtain ⟨b1, -⟩ := defFold_frame env (fun i => i.left.cls = 0 ∨ i.left.cls = 6) (fun i hi => by omega) defs
    (defFold env (fun i => i.left.cls = 5 ∨ i.left.cls = 8) defs c0)
  have himpl : c1.regs.impl = List.replicate 6 0 := by rw [hc1, b1, a1, h0]; rfl
  have himplc : c.regs.impl = List.replicate 6 0 := by
    show c1.regs.impl.set 3 0 = _
    rw [himpl]
    rfl
  constructor
  · apply SimC.toSim hρ
    refine ⟨rfl, by rw [himplc]; rfl, by rw [himplc]; rfl, by rw [himplc]; rfl, by rw [himplc]; rfl,
      by rw [himplc]; rfl, by rw [himplc]; rfl, ?_⟩
    · intro env' x r hr hnb
      rw [readReg_varCell (.of_vars (hρ.vars x r hr hnb)) env' env' (c := c1) (c' := c) rfl rfl rfl]
      show readReg env' c1 r = Sem.lookupVar (decls.map fun d => (d.name, d.init)) x
      rw [hc1]
      by_cases hex : ∃ d ∈ decls, d.name = x
      · obtain ⟨d, hdm, rfl⟩ := hex
        rw [lookupVar_init_self decls hρ.declNodup d hdm]
        cases hvol : d.vol with
        | false =>
          exact defFold_decl hρ hd env env' _ _ wfr hdm ((mkDef_cls hρ hdm).2.mpr hvol) hr
        | true =>
          rw [defFold_nondecl hρ hd env env' _ _ hr]
          · exact defFold_decl hρ hd env env' _ _ wf0 hdm ((mkDef_cls hρ hdm).1.mpr hvol) hr
          · intro d' hdm' hP e
            have hl : (mkDef ρ d').left = (mkDef ρ d).left := by simp only [mkDef, e]
            rw [hl] at hP
            have := (mkDef_cls hρ hdm).2.mp hP
            rw [hvol] at this
            cases this
      · have hx : ∀ d ∈ decls, d.name ≠ x := fun d hdm e => hex ⟨d, hdm, e⟩
        rw [lookupVar_init_other decls x hx,
          defFold_nondecl hρ hd env env' _ _ hr (fun d hdm _ => hx d hdm),
          defFold_nondecl hρ hd env env' _ _ hr (fun d hdm _ => hx d hdm)]
        have hcls := hρ.locals x r hr hnb hx
        obtain ⟨a, i⟩ := r
        simp only at hcls
        subst hcls
        show c0.regs.loc.getD i 0 = 0
        rw [h0]
        exact getD_replicate_zero 8 i
  · obtain ⟨w1, w2, w3, w4, w5⟩ := wf1
    exact ⟨w1, w2, by show 6 ≤ (c1.regs.impl.set 3 0).length; rw [List.length_set]; exact w3, w4, w5⟩

/-- counter-example to stage 1 without `RegsWf` (header of `LowerSem.lean`): from any simulating state, emptying the
temporary file keeps `Sim`, which does not look at temporaries -/
theorem stage1_needs_RegsWf {ρ : Rho} {decls : List Sem.VarDecl} (hρ : RhoOk ρ decls) (env : Env)
    (s : Sem.SrcState) (c : Conn) (sim : Sim ρ s c) :
    let c0 : Conn := { c with regs := { c.regs with tmp := [] } }
    let e : Expr := .sexp .add (.atom (.num 1)) (.atom (.num 2))
    Sim ρ s c0 ∧ pureE e = true ∧ litsOkE e = true ∧
    ∃ le, lowerE ρ e 0 = some le ∧ TmpsOk le.instrs ∧ (le.reg.cls = 7 → le.reg.idx < 8) ∧
      Sem.evalE env s e = .ok s 3 ∧
      ∃ c', execInstrs env c0 le.instrs = (c', 0) ∧ readReg env c' le.reg = 0 := by
  intro c0 e
  refine ⟨⟨fun env' x r hx => ?_, sim.2⟩, rfl, rfl,
    ⟨[⟨0, vTmp 0, vImmNum 1, vImmNum 2⟩], vTmp 0, 1⟩, rfl, ?_, by intro _; decide, ?_, c0, ?_, rfl⟩
  · rw [← sim.1 env' x r hx]
    cases hc : cell r with
    | none => exact readReg_no_cell env' c c0 hc
    | some p =>
      obtain ⟨f, i⟩ := p
      refine readReg_congr env' env' hc ?_
      cases f
      case tmp => exact absurd (cls_of_fileOf_eq (cell_spec hc).1 (.inr rfl)) (rho_cls_ne hρ hx).1
      all_goals rfl
  · exact List.forall_mem_singleton.mpr (by decide)
  · have h1 : Sem.evalE env s (.atom (.num 1)) = .ok s (Sem.immVal 1) := by rw [Sem.evalE]
    have h2 : Sem.evalE env s (.atom (.num 2)) = .ok s (Sem.immVal 2) := by rw [Sem.evalE]
    rw [evalE_op (o := .add) rfl, h1, andThen_ok, h2, andThen_ok]
    rfl
  · rfl

def cexEvents : List Event :=
  [⟨.atom (.bool true), [.sexp .bind (.atom (.name "__eventFlag".toList)) (.atom (.num 0))]⟩,
   ⟨.atom (.bool true), [.sexp .bind (.atom (.name "Cwnd".toList)) (.atom (.num 1))]⟩]

def cexLP : LP :=
  ⟨[⟨0, 1, 1, 1⟩, ⟨2, 1, 3, 1⟩],
   [⟨1, vFlag, vFlag, vImmBool true⟩, ⟨1, ⟨2, 0⟩, ⟨2, 0⟩, vImmNum 0⟩,
    ⟨1, vFlag, vFlag, vImmBool true⟩, ⟨1, ⟨2, 4⟩, ⟨2, 4⟩, vImmNum 1⟩]⟩

def cexConn : Conn := { regs := Regs.zero, t0 := 0, programIndex := 1, staged := none, pending := Pending.none }
def cexSrcL : Sem.SrcState := Sem.initState [] 0

/-- counter-example to stage 3b without `noFlagWriteE` (header) -/
theorem stage3_needs_noFlagWrite {ρ : Rho} (hρ : RhoOk ρ []) :
    Stratified cexEvents = true ∧ InOracle cexEvents = true ∧ LitsOk cexEvents = true ∧
    (cexEvents.all fun ev => ev.body.all writesOkE) = true ∧
    lowerEvents ρ cexEvents 0 = some cexLP ∧ TmpsOk cexLP.instrs ∧
    Sim ρ cexSrcL cexConn ∧ RegsWf cexConn ∧
    ∃ s', Sem.evalEvents env0 cexSrcL cexEvents = .ok s' 0 ∧
      ∃ c', execExprs env0 (mkProg 0 cexLP) cexConn cexLP.exprs = (c', 0) ∧ ¬ Sim ρ s' c' := by
  have hflag : ρ "__eventFlag".toList = some ⟨2, 0⟩ := hρ.impls 0 (by decide)
  have hcwnd : ρ "Cwnd".toList = some ⟨2, 4⟩ := hρ.impls 4 (by decide)
  refine ⟨by decide +kernel, by decide +kernel, by decide +kernel, by decide +kernel, ?_, ?_, ?_, by simp [RegsWf, cexConn, Regs.zero], ?_⟩
  · simp only [cexEvents, lowerEvents, lowerFlag, lowerBody, lowerStmt, lowerE, hflag, hcwnd]
    rfl
  · intro i hi
    simp only [cexLP, List.mem_cons, List.not_mem_nil, or_false] at hi
    rcases hi with rfl | rfl | rfl | rfl <;> decide
  · apply SimC.toSim hρ
    refine ⟨rfl, rfl, rfl, rfl, rfl, rfl, rfl, ?_⟩
    intro env x r hr hnb
    have hcls := hρ.locals x r hr hnb (fun d hd => by cases hd)
    obtain ⟨a, i⟩ := r
    simp only at hcls; subst hcls
    exact getD_replicate_zero 8 i
  · refine ⟨cexSrcL, by decide +kernel, (execExprs env0 (mkProg 0 cexLP) cexConn cexLP.exprs).1, ?_, ?_⟩
    · exact Prod.ext rfl (by decide)
    · intro h
      exact absurd (Sim.toC hρ h).cwnd (by decide)

end Portus.Lang.Frag
