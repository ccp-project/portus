import PortusModel.Lemmas.Cell
import PortusModel.Lemmas.Datapath
/-!
# `lower ≈ Sem`: the reference lowering computes the source semantics (C01, second half; events and runs in
`LowerRun.lean`)

The source evaluator is a bind (`andThen`: a value goes on, every other outcome is final), the machine runs
`execInstrs` on an append, and `Agrees` — same return code, corresponding states, after a fault too — is kept by
running one after the other (`Agrees.andThen`). Every stage is an instance of that rule plus what its last
instruction does (`alu_step`, `guard_step`, `bind_step`). What makes two operands compose is hazard freedom
(`operand_safe`).

`Agrees` carries the proof: `lowerE_agrees` (stage 1) and `lowerStmt_agrees` (stage 2) here, `lowerBody_agrees`,
`lowerFlag_agrees`, `lowerEvents_agrees` and `invoke_correct` in `LowerRun.lean`. The disjunctions `ValRes`, `StmtRes`
and the `match` forms `lowerE_correct`, `lowerStmt_correct`, … are read off it by `Agrees.cases`; nothing uses them
(last section).

`Sim` says nothing about the *lengths* of the register files, and `writeReg` on a file that is too short is a no-op
(`List.set` out of range). So every statement that executes an instruction carries `RegsWf c`. Without it:
`c.regs.tmp = []`, `s` all zero: `Sim ρ s c` holds, `(+ 1 2)` evaluates to `3`, the lowered code leaves `tmp[0]`
reading `0` (`stage1_needs_RegsWf`, in `LowerRun.lean`).
-/
namespace Portus.Lang.Frag
open Portus Portus.Lang Portus.Vm

/-- `String.toList` is injective, so a name is looked up among the primitives as the string it is (and the table
below is evaluated on strings: `String.toList` of a literal is what costs) -/
theorem primIndex_toList (s : String) : Sem.primIndex s.toList = primNames.findIdx? (· = s) := by
  unfold Sem.primIndex
  show primNames.findIdx? _ = _
  congr 1
  funext t
  simp only [String.toList_inj]

theorem prim_strings : ∀ i (h : i < 15),
    primNames[i] ≠ "Micros" ∧ primNames[i] ≠ "Cwnd" ∧ primNames[i] ≠ "Rate" ∧ primNames[i] ≠ "__eventFlag" ∧
    primNames[i] ≠ "__shouldContinue" ∧ primNames[i] ≠ "__shouldReport" ∧
    primNames.findIdx? (· = primNames[i]) = some i := by decide +kernel

theorem prim_table : ∀ i (h : i < 15),
    primNames[i].toList ≠ "Micros".toList ∧ primNames[i].toList ≠ "Cwnd".toList ∧
    primNames[i].toList ≠ "Rate".toList ∧ primNames[i].toList ≠ "__eventFlag".toList ∧
    primNames[i].toList ≠ "__shouldContinue".toList ∧ primNames[i].toList ≠ "__shouldReport".toList ∧
    Sem.primIndex primNames[i].toList = some i := by
  intro i h
  simpa only [ne_eq, String.toList_inj, primIndex_toList] using prim_strings i h

theorem read_prim (env : Env) (s : Sem.SrcState) (i : Nat) (h : i < 15) :
    Sem.read env s primNames[i].toList = readPrim env i := by
  obtain ⟨h1, h2, h3, h4, h5, h6, h7⟩ := prim_table i h
  simp only [Sem.read, h1, h2, h3, h4, h5, h6, h7, if_false]

theorem nonbuiltin_facts {x : Name} (h : isBuiltinName x = false) :
    x ≠ "Micros".toList ∧ x ≠ "Cwnd".toList ∧ x ≠ "Rate".toList ∧ x ≠ "__eventFlag".toList ∧
    x ≠ "__shouldContinue".toList ∧ x ≠ "__shouldReport".toList ∧ Sem.primIndex x = none := by
  have key : ∀ s ∈ primNames ++ implNames, x ≠ s.toList := fun s hs e => by
    rw [isBuiltinName_iff.mpr ⟨s, hs, e.symm⟩] at h; cases h
  refine ⟨key "Micros" (by decide), key "Cwnd" (by decide), key "Rate" (by decide), key "__eventFlag" (by decide),
    key "__shouldContinue" (by decide), key "__shouldReport" (by decide), ?_⟩
  unfold Sem.primIndex
  rw [List.findIdx?_eq_none_iff]
  intro y hy
  simpa using fun e => key y (List.mem_append_left _ hy) e.symm

theorem read_nonbuiltin (env : Env) (s : Sem.SrcState) {x : Name} (h : isBuiltinName x = false) :
    Sem.read env s x = Sem.lookupVar s.vars x := by
  obtain ⟨h1, h2, h3, h4, h5, h6, h7⟩ := nonbuiltin_facts h
  simp only [Sem.read, h1, h2, h3, h4, h5, h6, h7, if_false]

/-- the cell of an ordinary variable: in the local, control or report file, inside its array -/
def VarCell (r : VReg) : Prop :=
  ∃ f, (f = .loc ∨ f = .control ∨ f = .report) ∧ cell r = some (f, r.idx) ∧ r.idx < f.cap

theorem VarCell.of_vars {r : VReg}
    (h : (r.cls = 3 ∧ r.idx < 8) ∨ ((r.cls = 0 ∨ r.cls = 8) ∧ r.idx < 110) ∨ ((r.cls = 5 ∨ r.cls = 6) ∧ r.idx < 110)) :
    VarCell r := by
  obtain ⟨a, i⟩ := r
  rcases h with ⟨h, hi⟩ | ⟨h | h, hi⟩ | ⟨h | h, hi⟩ <;> cases h
  · exact ⟨.loc, .inl rfl, rfl, hi⟩
  · exact ⟨.control, .inr (.inl rfl), rfl, hi⟩
  · exact ⟨.control, .inr (.inl rfl), rfl, hi⟩
  · exact ⟨.report, .inr (.inr rfl), rfl, hi⟩
  · exact ⟨.report, .inr (.inr rfl), rfl, hi⟩

theorem VarCell.writable {r : VReg} (h : VarCell r) : Writable r :=
  let ⟨f, _, hc, hi⟩ := h; ⟨f, hc, hi⟩

theorem VarCell.cls_ne {r : VReg} (h : VarCell r) : r.cls ≠ 7 ∧ r.cls ≠ 1 := by
  obtain ⟨f, hf, hc, -⟩ := h
  obtain ⟨a, i⟩ := r
  simp only [cell] at hc
  constructor <;> (rintro ⟨⟩; rcases hf with rfl | rfl | rfl <;> cases hc)

theorem rho_cases {ρ : Rho} {decls : List Sem.VarDecl} (hρ : RhoOk ρ decls) {x : Name} {r : VReg}
    (h : ρ x = some r) :
    (∃ i, ∃ hi : i < 15, x = primNames[i].toList ∧ r = ⟨4, i⟩) ∨
    (∃ i, ∃ hi : i < 6, x = implNames[i].toList ∧ r = ⟨2, i⟩) ∨
    (isBuiltinName x = false ∧ VarCell r) := by
  cases hb : isBuiltinName x with
  | false => exact .inr (.inr ⟨rfl, .of_vars (hρ.vars x r h hb)⟩)
  | true =>
    obtain ⟨s, hs, rfl⟩ := isBuiltinName_iff.mp hb
    rcases List.mem_append.mp hs with hs | hs <;> obtain ⟨i, hi, rfl⟩ := List.mem_iff_getElem.mp hs
    · have := hρ.prims i hi
      rw [h] at this
      exact .inl ⟨i, hi, rfl, Option.some.inj this⟩
    · have := hρ.impls i hi
      rw [h] at this
      exact .inr (.inl ⟨i, hi, rfl, Option.some.inj this⟩)

theorem rho_cls_ne {ρ : Rho} {decls : List Sem.VarDecl} (hρ : RhoOk ρ decls) {x : Name} {r : VReg}
    (h : ρ x = some r) : r.cls ≠ 7 ∧ r.cls ≠ 1 := by
  rcases rho_cases hρ h with ⟨i, hi, _, rfl⟩ | ⟨i, hi, _, rfl⟩ | ⟨_, hv⟩
  · exact ⟨by simp, by simp⟩
  · exact ⟨by simp, by simp⟩
  · exact hv.cls_ne

/-- a class that shares a file with class 1 (immediates) or 7 (temporaries) is that class -/
theorem cls_of_fileOf_eq {a b : Nat} (h : fileOf a = fileOf b) (hb : b = 1 ∨ b = 7) : a = b := by
  have h1 : fileOf b = b := by rcases hb with rfl | rfl <;> rfl
  rw [h1] at h
  unfold fileOf at h
  split at h
  · omega
  · split at h
    · omega
    · exact h

theorem Sim.writeTmp {ρ : Rho} {decls : List Sem.VarDecl} (hρ : RhoOk ρ decls) {s : Sem.SrcState} {c : Conn}
    (h : Sim ρ s c) (env : Env) (v : Val) (j : Nat) : Sim ρ s (writeReg env c v (vTmp j)) := by
  refine ⟨fun env' x r hx => ?_, (writeReg_t0 env c v _ (fun h2 => by cases h2)).trans h.2⟩
  rw [readReg_writeReg_ne _ _ _ _ _ _ (fun hs => (rho_cls_ne hρ hx).1 (cls_of_fileOf_eq hs.1.symm (.inr rfl)))]
  exact h.1 env' x r hx

theorem execInstrs_append (env : Env) (c : Conn) (a b : List VInstr) :
    execInstrs env c (a ++ b) =
      if (execInstrs env c a).2 < 0 then execInstrs env c a else execInstrs env (execInstrs env c a).1 b := by
  induction a generalizing c with
  | nil => simp [execInstrs]
  | cons i rest ih =>
    simp only [List.cons_append, execInstrs]
    by_cases h : (execInstr env c i).2 < 0
    · simp only [h, if_true]
    · simp only [h, if_false]; exact ih _

theorem execInstrs_append_ok {env : Env} {c c1 : Conn} {a : List VInstr} (b : List VInstr)
    (h : execInstrs env c a = (c1, 0)) : execInstrs env c (a ++ b) = execInstrs env c1 b := by
  rw [execInstrs_append, h]; simp

theorem execInstrs_append_fault {env : Env} {c c1 : Conn} {a : List VInstr} {rc : Int} (b : List VInstr)
    (h : execInstrs env c a = (c1, rc)) (hrc : rc < 0) : execInstrs env c (a ++ b) = (c1, rc) := by
  rw [execInstrs_append, h]; simp [hrc]

/-- `execInstrs` returns 0 for every non-negative code of its last instruction, so the code is kept only if it
is `≤ 0` -/
theorem execInstrs_single {env : Env} {c c2 : Conn} {i : VInstr} {rc : Int}
    (h : execInstr env c i = (c2, rc)) (hrc : rc ≤ 0) : execInstrs env c [i] = (c2, rc) := by
  simp only [execInstrs, h]
  by_cases h0 : rc < 0
  · simp [h0]
  · have : rc = 0 := by omega
    subst this; simp

/-- the opcodes that go through the ALU -/
def AluOp (op : Nat) : Prop :=
  op = 0 ∨ op = 3 ∨ op = 4 ∨ op = 6 ∨ op = 8 ∨ op = 9 ∨ op = 10 ∨ op = 11 ∨ op = 12 ∨ op = 14

theorem pureOpcode_alu {o : Op} {code : Nat} (h : pureOpcode o = some code) : AluOp code := by
  cases o <;> simp [pureOpcode] at h <;> subst h <;> simp [AluOp]

theorem execInstr_alu (env : Env) (c : Conn) {op : Nat} (t l r : VReg) (hop : AluOp op) :
    execInstr env c ⟨op, t, l, r⟩ =
      match alu op (readReg env c l) (readReg env c r) with
      | (some v, _) => (writeReg env c v t, 0)
      | (none, rc) => (c, rc) := by
  unfold AluOp at hop
  rcases hop with rfl | rfl | rfl | rfl | rfl | rfl | rfl | rfl | rfl | rfl <;> rfl

theorem alu_none_neg {op : Nat} (hop : AluOp op) {a b : Val} {rc : Int} (h : alu op a b = (none, rc)) : rc < 0 := by
  unfold AluOp at hop
  rcases hop with rfl | rfl | rfl | rfl | rfl | rfl | rfl | rfl | rfl | rfl <;> simp only [alu] at h <;>
    (try split at h) <;> simp at h <;> omega

theorem pureOpcode_cases {o : Op} {code : Nat} (h : pureOpcode o = some code) :
    (o = .and ∧ code = 12) ∨ (o = .or ∧ code = 0) ∨
    (Sem.opCode o = code ∧ Sem.opCode o ≠ 99 ∧ o ≠ .and ∧ o ≠ .or) := by
  cases o <;> simp [pureOpcode] at h <;> subst h <;> simp [Sem.opCode]

def andThen (r : Sem.Res) (k : Sem.SrcState → Val → Sem.Res) : Sem.Res :=
  match r with
  | .ok s v => k s v
  | x => x

theorem andThen_ok (s : Sem.SrcState) (v : Val) (k : Sem.SrcState → Val → Sem.Res) : andThen (.ok s v) k = k s v := rfl

theorem andThen_fault (s : Sem.SrcState) (rc : Int) (k : Sem.SrcState → Val → Sem.Res) :
    andThen (.fault s rc) k = .fault s rc := rfl

theorem andThen_outside (k : Sem.SrcState → Val → Sem.Res) : andThen .outside k = .outside := rfl

theorem andThen_assoc (r : Sem.Res) (k k' : Sem.SrcState → Val → Sem.Res) :
    andThen (andThen r k) k' = andThen r fun s v => andThen (k s v) k' := by
  cases r <;> rfl

/-- the machine outcome `out` agrees with the source outcome `res`: same return code, the states correspond (after
a fault too: they then hold the assignments made before it); `Q` is what more is known when both succeed.
`outside` promises nothing, `notDenoted` cannot occur. -/
def Agrees (ρ : Rho) (Q : Sem.SrcState → Val → Conn → Prop) (res : Sem.Res) (out : Conn × Int) : Prop :=
  match res with
  | .ok s v => out.2 = 0 ∧ Sim ρ s out.1 ∧ RegsWf out.1 ∧ Q s v out.1
  | .fault s rc => rc < 0 ∧ out.2 = rc ∧ Sim ρ s out.1 ∧ RegsWf out.1
  | .outside => True
  | .notDenoted => False

/-- **the sequencing rule**: the evaluator binds, the machine appends -/
theorem Agrees.andThen {ρ : Rho} {Q Q' : Sem.SrcState → Val → Conn → Prop} {res : Sem.Res}
    {k : Sem.SrcState → Val → Sem.Res} {env : Env} {c : Conn} {a b : List VInstr}
    (h : Agrees ρ Q res (execInstrs env c a))
    (hk : ∀ s v c1, execInstrs env c a = (c1, 0) → Sim ρ s c1 → RegsWf c1 → Q s v c1 →
      Agrees ρ Q' (k s v) (execInstrs env c1 b)) :
    Agrees ρ Q' (andThen res k) (execInstrs env c (a ++ b)) := by
  cases res with
  | ok s v =>
    obtain ⟨h0, sim, wf, q⟩ := h
    have hx : execInstrs env c a = ((execInstrs env c a).1, 0) := Prod.ext rfl h0
    rw [execInstrs_append_ok _ hx]
    exact hk s v _ hx sim wf q
  | fault s rc =>
    obtain ⟨hrc, h0, sim, wf⟩ := h
    have hx : execInstrs env c a = ((execInstrs env c a).1, rc) := Prod.ext rfl h0
    rw [execInstrs_append_fault _ hx hrc]
    exact ⟨hrc, rfl, sim, wf⟩
  | outside => trivial
  | notDenoted => exact h.elim

theorem Agrees.mono {ρ : Rho} {Q Q' : Sem.SrcState → Val → Conn → Prop} {res : Sem.Res} {out : Conn × Int}
    (h : Agrees ρ Q res out) (hq : ∀ s v, Q s v out.1 → Q' s v out.1) : Agrees ρ Q' res out := by
  cases res with
  | ok s v => exact ⟨h.1, h.2.1, h.2.2.1, hq s v h.2.2.2⟩
  | fault s rc => exact h
  | outside => trivial
  | notDenoted => exact h.elim

theorem Agrees.cases {ρ : Rho} {Q : Sem.SrcState → Val → Conn → Prop} {res : Sem.Res} {out : Conn × Int}
    (h : Agrees ρ Q res out) :
    (∃ s v c', res = .ok s v ∧ out = (c', 0) ∧ Sim ρ s c' ∧ RegsWf c' ∧ Q s v c') ∨
    (∃ s rc c', res = .fault s rc ∧ rc < 0 ∧ out = (c', rc) ∧ Sim ρ s c' ∧ RegsWf c') ∨
    res = .outside := by
  cases res with
  | ok s v => exact .inl ⟨s, v, out.1, rfl, Prod.ext rfl h.1, h.2.1, h.2.2.1, h.2.2.2⟩
  | fault s rc => exact .inr (.inl ⟨s, rc, out.1, rfl, h.1, Prod.ext rfl h.2.1, h.2.2.1, h.2.2.2⟩)
  | outside => exact .inr (.inr rfl)
  | notDenoted => exact h.elim

/-- Every post-condition says what became of the source's event flag: stage 3b's break rule compares the flag
*register* after the body with the condition *value* (header of `LowerRun.lean`), so each stage has to know that
only an assignment to `__eventFlag` moves it. -/
def ValPost (env : Env) (s : Sem.SrcState) (reg : VReg) : Sem.SrcState → Val → Conn → Prop :=
  fun s' v c' => readReg env c' reg = v ∧ s'.ev = s.ev

def BindPost (env : Env) (s : Sem.SrcState) (x : Name) (tx : VReg) : Sem.SrcState → Val → Conn → Prop :=
  fun s' v c' => readReg env c' tx = v ∧ (x ≠ "__eventFlag".toList → s'.ev = s.ev)

/-- the value of a pure operator on two operand values; `&&` / `||` only on truth values, and `||` not on (1, 1),
where the datapath's ADD gives 2 (otherwise the run is `outside` the fragment the documentation defines) -/
def opRes (o : Op) (s : Sem.SrcState) (a b : Val) : Sem.Res :=
  if o = .and then
    if (a == 0 || a == 1) && (b == 0 || b == 1) then .ok s (if a != 0 && b != 0 then 1 else 0) else .outside
  else if o = .or then
    if (a == 0 || a == 1) && (b == 0 || b == 1) && !(a == 1 && b == 1)
    then .ok s (if a != 0 || b != 0 then 1 else 0) else .outside
  else match alu (Sem.opCode o) a b with
    | (some v, _) => .ok s v
    | (none, rc) => .fault s rc

theorem evalE_op {env : Env} {s : Sem.SrcState} {o : Op} {code : Nat} (ho : pureOpcode o = some code) (l r : Expr) :
    Sem.evalE env s (.sexp o l r) =
      andThen (Sem.evalE env s l) fun s1 a => andThen (Sem.evalE env s1 r) fun s2 b => opRes o s2 a b := by
  cases o <;> simp only [pureOpcode, reduceCtorEq] at ho <;> simp only [Sem.evalE, Sem.opCode] <;> rfl

/-- the assignment at the end of a guarded bind; its value is the variable afterwards -/
def guardRes (op : Op) (x : Name) (env : Env) (s : Sem.SrcState) (av bv : Val) : Sem.Res :=
  let wr (v : Val) : Sem.Res :=
    match Sem.write env s x v with | some s3 => .ok s3 (Sem.read env s3 x) | none => .notDenoted
  match op with
  | .if => if av != 0 then wr bv else .ok s (Sem.read env s x)
  | .notIf => if av == 0 then wr bv else .ok s (Sem.read env s x)
  | _ => wr (ewma av (Sem.read env s x) bv)

theorem evalE_guard {env : Env} {s : Sem.SrcState} {op : Op} {code : Nat} (hc : condCode op = some code)
    (x : Name) (a b : Expr) :
    Sem.evalE env s (.sexp .bind (.atom (.name x)) (.sexp op a b)) =
      andThen (Sem.evalE env s a) fun s1 av => andThen (Sem.evalE env s1 b) fun s2 bv => guardRes op x env s2 av bv := by
  rcases condCode_cases hc with ⟨rfl, -⟩ | ⟨rfl, -⟩ | ⟨rfl, -⟩ <;> simp only [Sem.evalE] <;> rfl

theorem evalE_bind {env : Env} {s : Sem.SrcState} {x : Name} {e : Expr} (hn : NotCond e) :
    Sem.evalE env s (.sexp .bind (.atom (.name x)) e) =
      andThen (Sem.evalE env s e) fun s1 v =>
        match Sem.write env s1 x v with | some s2 => .ok s2 v | none => .notDenoted := by
  rw [Sem.evalE.eq_7 env s x e hn.1 hn.2.1 hn.2.2]
  rfl

theorem lookupVar_cons (a : Name × Val) (vs : List (Name × Val)) (x : Name) :
    Sem.lookupVar (a :: vs) x = if a.1 = x then a.2 else Sem.lookupVar vs x := by
  simp only [Sem.lookupVar, List.find?_cons]
  by_cases h : a.1 = x <;> simp [h]

theorem lookupVar_map_other (vs : List (Name × Val)) (x y : Name) (v : Val) (h : y ≠ x) :
    Sem.lookupVar (vs.map fun p => if p.1 = x then (x, v) else p) y = Sem.lookupVar vs y := by
  induction vs with
  | nil => rfl
  | cons a vs ih =>
    simp only [List.map_cons, lookupVar_cons, ih]
    by_cases ha : a.1 = x
    · have : ¬ x = y := fun e => h e.symm
      simp [ha, this]
    · simp [ha]

theorem lookupVar_setVar (vs : List (Name × Val)) (x y : Name) (v : Val) :
    Sem.lookupVar (Sem.setVar vs x v) y = if y = x then v else Sem.lookupVar vs y := by
  induction vs with
  | nil => by_cases h : x = y <;> simp [Sem.setVar, h, eq_comm, Sem.lookupVar]
  | cons a vs ih =>
    by_cases ha : a.1 = x
    · -- the head is the variable: it is replaced, and so is every later entry of that name
      have e : Sem.setVar (a :: vs) x v = (x, v) :: vs.map fun p => if p.1 = x then (x, v) else p := by
        simp [Sem.setVar, ha]
      rw [e, lookupVar_cons, lookupVar_cons, ha]
      by_cases hy : y = x
      · simp [hy]
      · rw [if_neg (fun e => hy e.symm), if_neg hy, if_neg (fun e => hy e.symm), lookupVar_map_other _ _ _ _ hy]
    · have e : Sem.setVar (a :: vs) x v = a :: Sem.setVar vs x v := by
        simp only [Sem.setVar, List.any_cons, ha, decide_false, Bool.false_or]
        split <;> simp [ha]
      rw [e, lookupVar_cons, lookupVar_cons, ih]
      by_cases hay : a.1 = y
      · rw [if_pos hay, if_pos hay, if_neg (fun e => ha (hay.trans e))]
      · rw [if_neg hay, if_neg hay]

/-- what an assignment does, in one pass over the ladder of `Sem.write` -/
theorem write_spec {env : Env} {s s' : Sem.SrcState} {x : Name} {v : Val} (h : Sem.write env s x v = some s') :
    (∀ env', Sem.read env' s' x = v) ∧ (∀ env' y, y ≠ x → Sem.read env' s' y = Sem.read env' s y) ∧
    (x ≠ "Micros".toList → s'.t0 = s.t0) ∧ (x ≠ "__eventFlag".toList → s'.ev = s.ev) := by
  unfold Sem.write at h
  by_cases h1 : x = "Micros".toList
  · rw [if_pos h1] at h; cases h; subst h1
    exact ⟨fun _ => if_pos rfl, fun _ y hy => by simp only [Sem.read, if_neg hy], fun h => absurd rfl h, fun _ => rfl⟩
  rw [if_neg h1] at h
  by_cases h2 : x = "Cwnd".toList
  · rw [if_pos h2] at h; cases h; subst h2
    exact ⟨fun _ => by rw [Sem.read, if_neg h1, if_pos rfl], fun _ y hy => by simp only [Sem.read, if_neg hy],
      fun _ => rfl, fun _ => rfl⟩
  rw [if_neg h2] at h
  by_cases h3 : x = "Rate".toList
  · rw [if_pos h3] at h; cases h; subst h3
    exact ⟨fun _ => by rw [Sem.read, if_neg h1, if_neg h2, if_pos rfl], fun _ y hy => by simp only [Sem.read, if_neg hy],
      fun _ => rfl, fun _ => rfl⟩
  rw [if_neg h3] at h
  by_cases h4 : x = "__eventFlag".toList
  · rw [if_pos h4] at h; cases h; subst h4
    exact ⟨fun _ => by rw [Sem.read, if_neg h1, if_neg h2, if_neg h3, if_pos rfl],
      fun _ y hy => by simp only [Sem.read, if_neg hy], fun _ => rfl, fun h => absurd rfl h⟩
  rw [if_neg h4] at h
  by_cases h5 : x = "__shouldContinue".toList
  · rw [if_pos h5] at h; cases h; subst h5
    exact ⟨fun _ => by rw [Sem.read, if_neg h1, if_neg h2, if_neg h3, if_neg h4, if_pos rfl],
      fun _ y hy => by simp only [Sem.read, if_neg hy], fun _ => rfl, fun _ => rfl⟩
  rw [if_neg h5] at h
  by_cases h6 : x = "__shouldReport".toList
  · rw [if_pos h6] at h; cases h; subst h6
    exact ⟨fun _ => by rw [Sem.read, if_neg h1, if_neg h2, if_neg h3, if_neg h4, if_neg h5, if_pos rfl],
      fun _ y hy => by simp only [Sem.read, if_neg hy], fun _ => rfl, fun _ => rfl⟩
  rw [if_neg h6] at h
  cases hp : Sem.primIndex x with
  | some i => rw [hp] at h; cases h
  | none =>
    rw [hp] at h
    cases h
    refine ⟨fun _ => ?_, fun _ y hy => ?_, fun _ => rfl, fun _ => rfl⟩
    · rw [Sem.read, if_neg h1, if_neg h2, if_neg h3, if_neg h4, if_neg h5, if_neg h6, hp]
      rw [lookupVar_setVar, if_pos rfl]
    · simp only [Sem.read, lookupVar_setVar, if_neg hy]

theorem write_t0_micros {env : Env} {s s' : Sem.SrcState} {v : Val}
    (h : Sem.write env s "Micros".toList v = some s') : s'.t0 = env.now - v := by
  cases h; rfl

theorem exists_ite_some {α : Type} {c : Prop} [Decidable c] {a : α} {e : Option α} (h : ∃ s, e = some s) :
    ∃ s, (if c then some a else e) = some s := by
  split
  · exact ⟨_, rfl⟩
  · exact h

/-- a name that is not a primitive can be assigned: each of the six tests of `Sem.write` before the last yields a
state (`exists_ite_some`, so that no name is compared) -/
theorem write_some (env : Env) (s : Sem.SrcState) (x : Name) (v : Val) (h : Sem.primIndex x = none) :
    ∃ s', Sem.write env s x v = some s' := by
  unfold Sem.write
  rw [h]
  exact exists_ite_some (exists_ite_some (exists_ite_some (exists_ite_some (exists_ite_some (exists_ite_some
    ⟨_, rfl⟩)))))

theorem write_not_prim {env : Env} {s s' : Sem.SrcState} {v : Val} {i : Nat} (hi : i < 15)
    (h : Sem.write env s primNames[i].toList v = some s') : False := by
  obtain ⟨h1, h2, h3, h4, h5, h6, h7⟩ := prim_table i hi
  simp only [Sem.write, h1, h2, h3, h4, h5, h6, h7, if_false, Option.isSome_some, if_true] at h
  cases h

/-- (`x` is not a primitive because `Sem.write` succeeded) -/
theorem write_sim {ρ : Rho} {decls : List Sem.VarDecl} (hρ : RhoOk ρ decls) {x : Name} {r : VReg} {env : Env}
    {s s' : Sem.SrcState} {c : Conn} {v : Val} (hx : ρ x = some r) (hw : Sem.write env s x v = some s')
    (sim : Sim ρ s c) (wf : RegsWf c) : Sim ρ s' (writeReg env c v r) := by
  have hcell : Writable r := by
    rcases rho_cases hρ hx with ⟨i, hi, rfl, rfl⟩ | ⟨i, hi, _, rfl⟩ | ⟨_, hv⟩
    · exact (write_not_prim hi hw).elim
    · exact ⟨.impl, rfl, hi⟩
    · exact hv.writable
  refine ⟨fun env' y ry hy => ?_, ?_⟩
  · by_cases hyx : y = x
    · subst hyx
      rw [hx] at hy; cases hy
      rw [readReg_writeReg_self _ _ _ _ _ wf hcell, (write_spec hw).1]
    · rw [readReg_writeReg_ne _ _ _ _ _ _ (fun hc => hyx (hρ.inj x y r ry hx hy hc).symm), (write_spec hw).2.1 _ y hyx]
      exact sim.1 env' y ry hy
  · by_cases hm : x = "Micros".toList
    · subst hm
      have : ρ "Micros".toList = some ⟨2, 3⟩ := hρ.impls 3 (by decide)
      rw [hx] at this
      cases this
      rw [writeReg_t0_micros, write_t0_micros hw]
    · rw [(write_spec hw).2.2.1 hm, writeReg_t0, sim.2]
      exact fun h => hm (hρ.inj x "Micros".toList r ⟨2, 3⟩ hx (hρ.impls 3 (by decide)) (cell_spec h))

theorem write_step {ρ : Rho} {decls : List Sem.VarDecl} (hρ : RhoOk ρ decls) {x : Name} {tx : VReg}
    (hx : ρ x = some tx) (hp : Sem.primIndex x = none) (env : Env) {s : Sem.SrcState} {c : Conn}
    (sim : Sim ρ s c) (wf : RegsWf c) (v : Val) :
    ∃ s3, Sem.write env s x v = some s3 ∧ Sim ρ s3 (writeReg env c v tx) ∧ RegsWf (writeReg env c v tx) ∧
      (x ≠ "__eventFlag".toList → s3.ev = s.ev) := by
  obtain ⟨s3, hw⟩ := write_some env s x v hp
  exact ⟨s3, hw, write_sim hρ hx hw sim wf, writeReg_wf _ _ _ _ wf, (write_spec hw).2.2.2⟩

theorem execInstrs_read_other (env env' : Env) (reg : VReg) (is : List VInstr) (c : Conn)
    (h : ∀ i ∈ is, ¬ sameCell i.ret reg) : readReg env' (execInstrs env c is).1 reg = readReg env' c reg :=
  execInstrs_inv env (fun c' => readReg env' c' reg = readReg env' c reg) is c rfl
    fun i hi _ _ hc => (readReg_writeReg_ne _ _ _ _ _ _ (h i hi)).trans hc

/-- what an instruction of lowered code writes: a temporary allocated by this call (the result of an ALU
instruction), or — the instruction is a `bind`, or the in-place `ewma` / `if` / `!if` of a guarded bind — the
register of a variable the expression assigns -/
def InstrShape (ρ : Rho) (W : List Name) (k k' : Nat) (i : VInstr) : Prop :=
  (i.ret.cls = 7 ∧ k ≤ i.ret.idx ∧ i.ret.idx < k' ∧ AluOp i.op) ∨
  ((i.op = 1 ∨ i.op = 5 ∨ i.op = 7 ∨ i.op = 13) ∧ ∃ x ∈ W, ρ x = some i.ret)

theorem InstrShape.mono {ρ : Rho} {W W' : List Name} {k k' j j' : Nat} {i : VInstr}
    (h : InstrShape ρ W k k' i) (hW : ∀ x ∈ W, x ∈ W') (hj : j ≤ k) (hj' : k' ≤ j') : InstrShape ρ W' j j' i := by
  rcases h with ⟨h1, h2, h3, h4⟩ | ⟨h1, x, hx, h2⟩
  · exact .inl ⟨h1, by omega, by omega, h4⟩
  · exact .inr ⟨h1, x, hW x hx, h2⟩

theorem InstrShape.op_ne2 {ρ : Rho} {W : List Name} {k k' : Nat} {i : VInstr} (h : InstrShape ρ W k k' i) :
    i.op ≠ 2 := by
  rcases h with ⟨_, _, _, h4⟩ | ⟨h1, _⟩
  · unfold AluOp at h4; omega
  · omega

theorem InstrShape.ret_ne {ρ : Rho} {W : List Name} {k k' : Nat} {i : VInstr} (h : InstrShape ρ W k k' i) {reg : VReg}
    (h7 : reg.cls = 7 → reg.idx < k) (hW : ∀ y ∈ W, ∀ ry, ρ y = some ry → ¬ sameCell ry reg) :
    ¬ sameCell i.ret reg := by
  rintro ⟨hf, hidx⟩
  rcases h with ⟨i7, ilo, _, _⟩ | ⟨_, y, hy, hρy⟩
  · have : reg.cls = 7 := by rw [i7] at hf; exact cls_of_fileOf_eq hf.symm (.inr rfl)
    have := h7 this
    omega
  · exact hW y hy _ hρy ⟨hf, hidx⟩

theorem lowerE_shape {ρ : Rho} {decls : List Sem.VarDecl} (hρ : RhoOk ρ decls) :
    ∀ (e : Expr) (k : Nat) (le : LE), lowerE ρ e k = some le →
      k ≤ le.k ∧ (le.reg.cls = 7 → k ≤ le.reg.idx ∧ le.reg.idx < le.k) ∧
      ∀ i ∈ le.instrs, InstrShape ρ (writesIn e) k le.k i := by
  intro e
  induction e using Expr.ind2 with
  | atom p =>
    intro k le h
    obtain ⟨hi, hk, hreg⟩ := lowerE_atom_inv h
    refine ⟨by omega, fun h7 => ?_, by rw [hi]; exact fun _ h => by cases h⟩
    rcases hreg with h1 | ⟨x, -, hx⟩
    · omega
    · exact absurd h7 (rho_cls_ne hρ hx).1
  | cmd _ | none => intro k le h; simp [lowerE] at h
  | sexp o l r ihl ihr ihsub =>
    intro k le h
    rcases lowerE_sexp_cases h with ⟨x, rx, cr, rfl, rfl, hx, hr, rfl⟩ |
      ⟨x, op, a, b, code, rx, ca, cb, rfl, rfl, rfl, hc, hx, ha, hb, rfl⟩ | ⟨code, cl, cr, ho, hl, hr, rfl⟩
    · obtain ⟨r1, _, r3⟩ := ihr k cr hr
      refine ⟨r1, fun h7 => absurd h7 ((rho_cls_ne hρ hx).1), List.forall_mem_append.mpr
        ⟨fun i hi => (r3 i hi).mono (fun y hy => by rw [writesIn]; exact List.mem_cons_of_mem _ hy)
          (Nat.le_refl _) (Nat.le_refl _),
        List.forall_mem_singleton.mpr (.inr ⟨.inl rfl, x, by rw [writesIn]; exact List.mem_cons_self, hx⟩)⟩⟩
    · obtain ⟨iha, ihb⟩ := ihsub op a b rfl
      obtain ⟨l1, _, l3⟩ := iha k ca ha
      obtain ⟨r1, _, r3⟩ := ihb ca.k cb hb
      refine ⟨by simp only; omega, fun h7 => absurd h7 ((rho_cls_ne hρ hx).1), ?_⟩
      rw [writesIn_guard hc]
      refine forall_mem_node_of
        (fun i hi => (l3 i hi).mono (fun y hy => List.mem_cons_of_mem _ (List.mem_append_left _ hy)) (Nat.le_refl _)
          (by simp only; omega))
        (fun i hi => (r3 i hi).mono (fun y hy => List.mem_cons_of_mem _ (List.mem_append_right _ hy)) l1
          (Nat.le_refl _))
        (.inr ⟨?_, x, List.mem_cons_self, hx⟩)
      rcases condCode_cases hc with ⟨_, rfl⟩ | ⟨_, rfl⟩ | ⟨_, rfl⟩ <;> simp
    · obtain ⟨l1, l2, l3⟩ := ihl k cl hl
      obtain ⟨r1, r2, r3⟩ := ihr cl.k cr hr
      refine ⟨by simp only; omega, fun _ => by simp only [vTmp]; omega, ?_⟩
      rw [writesIn_op ho]
      exact forall_mem_node_of
        (fun i hi => (l3 i hi).mono (fun y hy => List.mem_append_left _ hy) (Nat.le_refl _) (by simp only; omega))
        (fun i hi => (r3 i hi).mono (fun y hy => List.mem_append_right _ hy) l1 (by simp only; omega))
        (.inl ⟨rfl, by simp only [vTmp]; omega, by simp only [vTmp]; omega, pureOpcode_alu ho⟩)

theorem lowerE_shape_pure {ρ : Rho} {decls : List Sem.VarDecl} (hρ : RhoOk ρ decls) {e : Expr}
    (hp : pureE e = true) {k : Nat} {le : LE} (h : lowerE ρ e k = some le) :
    ∀ i ∈ le.instrs, i.ret.cls = 7 ∧ k ≤ i.ret.idx ∧ i.ret.idx < le.k ∧ AluOp i.op := by
  intro i hi
  rcases (lowerE_shape hρ e k le h).2.2 i hi with h1 | ⟨_, x, hx, _⟩
  · exact h1
  · rw [writesIn_pure hp] at hx; cases hx

theorem lowerE_reg_cases {ρ : Rho} {e : Expr} {k : Nat} {le : LE} (h : lowerE ρ e k = some le) :
    le.reg.cls = 1 ∨ le.reg.cls = 7 ∨ ∃ x, resultName e = some x ∧ ρ x = some le.reg := by
  cases e with
  | atom p =>
    rcases (lowerE_atom_inv h).2.2 with h1 | ⟨x, rfl, hx⟩
    · exact .inl h1
    · exact .inr (.inr ⟨x, rfl, hx⟩)
  | cmd _ | none => simp [lowerE] at h
  | sexp o l r =>
    rcases lowerE_sexp_cases h with ⟨x, rx, cr, rfl, rfl, hx, hr, rfl⟩ |
      ⟨x, op, a, b, code, rx, ca, cb, rfl, rfl, rfl, hc, hx, ha, hb, rfl⟩ | ⟨code, cl, cr, ho, hl, hr, rfl⟩
    · exact .inr (.inr ⟨x, rfl, hx⟩)
    · exact .inr (.inr ⟨x, rfl, hx⟩)
    · exact .inr (.inl rfl)

/-- **hazard freedom.** No instruction of the right operand writes the result register of the left operand:
a temporary of the left operand lies below the right operand's counter range, an immediate is never written,
and the register of a named variable is not written because the right operand does not assign that variable
(`noHazard`; distinct names live in distinct cells) -/
theorem operand_safe {ρ : Rho} {decls : List Sem.VarDecl} (hρ : RhoOk ρ decls) {l r : Expr} {k : Nat} {cl : LE}
    (hl : lowerE ρ l k = some cl) (hz : noHazard l r = true) {kr kr' : Nat} {i : VInstr}
    (hi : InstrShape ρ (writesIn r) kr kr' i) (hk : cl.reg.cls = 7 → cl.reg.idx < kr) :
    ¬ sameCell i.ret cl.reg := by
  refine hi.ret_ne hk ?_
  rintro y hy ry hρy ⟨hf, hidx⟩
  rcases lowerE_reg_cases hl with h1 | h7 | ⟨x, hrn, hx⟩
  · rw [h1] at hf
    exact (rho_cls_ne hρ hρy).2 (cls_of_fileOf_eq hf (.inl rfl))
  · rw [h7] at hf
    exact (rho_cls_ne hρ hρy).1 (cls_of_fileOf_eq hf (.inr rfl))
  · have hyx : y = x := hρ.inj y x _ _ hρy hx ⟨hf, hidx⟩
    subst hyx
    unfold noHazard at hz
    rw [hrn] at hz
    simp only [Bool.not_eq_true', List.contains_eq_mem, decide_eq_false_iff_not] at hz
    exact hz hy

/-- every variable a value expression assigns is an ordinary variable: not a primitive (the assignment is
denoted), not an implicit register — in particular not `__eventFlag` -/
theorem valueE_writes {e : Expr} (h : valueE e = true) : ∀ y ∈ writesIn e, isBuiltinName y = false := by
  induction e using Expr.ind2 with
  | atom p => intro y hy; simp [writesIn] at hy
  | cmd _ | none => simp [valueE] at h
  | sexp o l r ihl ihr ihsub =>
    rcases valueE_sexp_cases h with ⟨x, rfl, rfl, hnb, hvr⟩ |
      ⟨x, op, a, b, code, rfl, rfl, rfl, hc, hnb, hva, hvb, _⟩ | ⟨code, ho, hvl, hvr, _⟩
    · rw [writesIn]
      exact List.forall_mem_cons.mpr ⟨hnb, ihr hvr⟩
    · obtain ⟨iha, ihb⟩ := ihsub op a b rfl
      rw [writesIn_guard hc]
      exact List.forall_mem_cons.mpr ⟨hnb, List.forall_mem_append.mpr ⟨iha hva, ihb hvb⟩⟩
    · rw [writesIn_op ho]
      exact List.forall_mem_append.mpr ⟨ihl hvl, ihr hvr⟩

theorem valueE_writes_ok {e : Expr} (h : valueE e = true) :
    ∀ y ∈ writesIn e, Sem.primIndex y = none ∧ y ≠ "__eventFlag".toList := by
  intro y hy
  obtain ⟨_, _, _, h4, _, _, h7⟩ := nonbuiltin_facts (valueE_writes h y hy)
  exact ⟨h7, h4⟩

theorem alu_and (a b : Val) (ha : a = 0 ∨ a = 1) (hb : b = 0 ∨ b = 1) :
    alu 12 a b = (some (if a != 0 && b != 0 then 1 else 0), 0) := by
  rcases ha with rfl | rfl <;> rcases hb with rfl | rfl <;> decide

theorem alu_or (a b : Val) (ha : a = 0 ∨ a = 1) (hb : b = 0 ∨ b = 1) (hab : ¬ (a = 1 ∧ b = 1)) :
    alu 0 a b = (some (if a != 0 || b != 0 then 1 else 0), 0) := by
  rcases ha with rfl | rfl <;> rcases hb with rfl | rfl <;> first | decide | exact absurd ⟨rfl, rfl⟩ hab

/-- the ALU instruction of an operator node, into any register `t`. A disjunction and not an `Agrees`: that the
write keeps `Sim` depends on what `t` is (a temporary in `opNode_agrees`, the event flag in `lowerFlag_agrees`) -/
theorem alu_step (env : Env) (s : Sem.SrcState) (c : Conn) {o : Op} {code : Nat}
    (ho : pureOpcode o = some code) (t rl rr : VReg) :
    (∃ v, opRes o s (readReg env c rl) (readReg env c rr) = .ok s v ∧
      execInstrs env c [⟨code, t, rl, rr⟩] = (writeReg env c v t, 0)) ∨
    (∃ rc, opRes o s (readReg env c rl) (readReg env c rr) = .fault s rc ∧ rc < 0 ∧
      execInstrs env c [⟨code, t, rl, rr⟩] = (c, rc)) ∨
    opRes o s (readReg env c rl) (readReg env c rr) = .outside := by
  have hstep := execInstr_alu env c t rl rr (pureOpcode_alu ho)
  generalize readReg env c rl = a at hstep ⊢
  generalize readReg env c rr = b at hstep ⊢
  rcases pureOpcode_cases ho with ⟨rfl, rfl⟩ | ⟨rfl, rfl⟩ | ⟨hc, h99, hna, hno⟩
  · rw [opRes, if_pos rfl]
    by_cases hcond : ((a == 0 || a == 1) && (b == 0 || b == 1)) = true
    · left
      refine ⟨_, if_pos hcond, ?_⟩
      simp only [Bool.and_eq_true, Bool.or_eq_true, beq_iff_eq] at hcond
      rw [alu_and a b hcond.1 hcond.2] at hstep
      exact execInstrs_single hstep (by omega)
    · exact .inr (.inr (if_neg hcond))
  · rw [opRes, if_neg (by decide), if_pos rfl]
    by_cases hcond : ((a == 0 || a == 1) && (b == 0 || b == 1) && !(a == 1 && b == 1)) = true
    · left
      refine ⟨_, if_pos hcond, ?_⟩
      simp only [Bool.and_eq_true, Bool.or_eq_true, beq_iff_eq, Bool.not_eq_true', Bool.and_eq_false_iff,
        beq_eq_false_iff_ne] at hcond
      rw [alu_or a b hcond.1.1 hcond.1.2 (by intro h; rcases hcond.2 with h' | h' <;> simp [h] at h')] at hstep
      exact execInstrs_single hstep (by omega)
    · exact .inr (.inr (if_neg hcond))
  · rw [opRes, if_neg hna, if_neg hno, hc]
    cases hal : alu code a b with
    | mk ov rc =>
      rw [hal] at hstep
      cases ov with
      | some v => exact .inl ⟨v, rfl, execInstrs_single hstep (by omega)⟩
      | none =>
        have hrc := alu_none_neg (pureOpcode_alu ho) hal
        exact .inr (.inl ⟨rc, rfl, hrc, execInstrs_single hstep (by omega)⟩)

/-- the in-place instruction of a guarded bind, statement or nested -/
theorem guard_step {ρ : Rho} {decls : List Sem.VarDecl} (hρ : RhoOk ρ decls) {op : Op} {code : Nat}
    (hc : condCode op = some code) {x : Name} {tx : VReg} (hx : ρ x = some tx) (hp : Sem.primIndex x = none)
    {env : Env} {s : Sem.SrcState} {c : Conn} (sim : Sim ρ s c) (wf : RegsWf c) (ra rb : VReg) :
    Agrees ρ (BindPost env s x tx)
      (guardRes op x env s (readReg env c ra) (readReg env c rb)) (execInstrs env c [⟨code, tx, ra, rb⟩]) := by
  have wr : ∀ v, execInstrs env c [⟨code, tx, ra, rb⟩] = (writeReg env c v tx, 0) →
      Agrees ρ (BindPost env s x tx)
        (match Sem.write env s x v with | some s3 => .ok s3 (Sem.read env s3 x) | none => .notDenoted)
        (execInstrs env c [⟨code, tx, ra, rb⟩]) := by
    intro v hx'
    obtain ⟨s3, hw3, sim3, wf3, hev3⟩ := write_step hρ hx hp env sim wf v
    rw [hw3, hx']
    exact ⟨rfl, sim3, wf3, sim3.1 env x tx hx, hev3⟩
  have keep : execInstrs env c [⟨code, tx, ra, rb⟩] = (c, 0) →
      Agrees ρ (BindPost env s x tx) (.ok s (Sem.read env s x)) (execInstrs env c [⟨code, tx, ra, rb⟩]) := by
    intro hx'
    rw [hx']
    exact ⟨rfl, sim, wf, sim.1 env x tx hx, fun _ => rfl⟩
  rcases condCode_cases hc with ⟨rfl, rfl⟩ | ⟨rfl, rfl⟩ | ⟨rfl, rfl⟩ <;> simp only [guardRes]
  iterate 2
    · split
      · rename_i h; exact wr _ (execInstrs_single (by simp only [execInstr, h, if_true]) (by omega))
      · rename_i h; exact keep (execInstrs_single (by simp only [execInstr, h]; rfl) (by omega))
  · exact wr _ (execInstrs_single (by simp only [execInstr, sim.1 env x tx hx]) (by omega))

/-- the `bind` instruction of a plain bind, statement or nested -/
theorem bind_step {ρ : Rho} {decls : List Sem.VarDecl} (hρ : RhoOk ρ decls)
    {x : Name} {tx : VReg} (hx : ρ x = some tx) (hp : Sem.primIndex x = none)
    {env : Env} {s : Sem.SrcState} {c : Conn} (sim : Sim ρ s c) (wf : RegsWf c) (rr : VReg) :
    Agrees ρ (BindPost env s x tx)
      (match Sem.write env s x (readReg env c rr) with | some s2 => .ok s2 (readReg env c rr) | none => .notDenoted)
      (execInstrs env c [⟨1, tx, tx, rr⟩]) := by
  obtain ⟨s3, hw3, sim3, wf3, hev3⟩ := write_step hρ hx hp env sim wf (readReg env c rr)
  rw [hw3, execInstrs_single (i := ⟨1, tx, tx, rr⟩) (c2 := writeReg env c (readReg env c rr) tx) (rc := 0) rfl
    (by omega)]
  exact ⟨rfl, sim3, wf3, (sim3.1 env x tx hx).trans ((write_spec hw3).1 env), hev3⟩

theorem TmpsOk.append {a b : List VInstr} (h : TmpsOk (a ++ b)) : TmpsOk a ∧ TmpsOk b :=
  List.forall_mem_append.mp h

theorem TmpsOk.nil : TmpsOk [] := fun _ h => by cases h

theorem readReg_immNum (env : Env) (c : Conn) (n : Nat) (h : litsOkE (.atom (.num n)) = true) :
    readReg env c (vImmNum n) = Sem.immVal n := by
  simp only [litsOkE, Bool.or_eq_true, decide_eq_true_eq] at h
  rcases h with h | rfl
  · have h1 : n % 2 ^ 32 = n := Nat.mod_eq_of_lt (by omega)
    have h2 : n ≠ 2 ^ 64 - 1 := by omega
    simp only [vImmNum, readReg, Sem.immVal, h1, h2, if_false]
  · show UInt64.ofNat ((2 ^ 64 - 1) % 2 ^ 32) = Sem.immVal (2 ^ 64 - 1)
    decide

theorem readReg_immBool (env : Env) (c : Conn) (b : Bool) :
    readReg env c (vImmBool b) = if b then 1 else 0 := by
  cases b <;> rfl

theorem litsOkE_sexp {o : Op} {l r : Expr} (h : litsOkE (.sexp o l r) = true) : litsOkE l = true ∧ litsOkE r = true := by
  simpa only [litsOkE, Bool.and_eq_true] using h

/-- **two operands, then `last`**: the operands run left to right, the second from the counter where the first
stopped; when `last` starts, both result registers hold the operand values — the left one still, because the right
operand's code does not write it (`operand_safe`) -/
theorem operands_agree {ρ : Rho} {decls : List Sem.VarDecl} (hρ : RhoOk ρ decls) {a b : Expr} {k : Nat} {ca cb : LE}
    (ha : lowerE ρ a k = some ca) (hb : lowerE ρ b ca.k = some cb) (hz : noHazard a b = true)
    {env : Env} {s : Sem.SrcState} {c : Conn}
    (Ha : Agrees ρ (ValPost env s ca.reg) (Sem.evalE env s a) (execInstrs env c ca.instrs))
    (Hb : ∀ s1 c1, Sim ρ s1 c1 → RegsWf c1 →
      Agrees ρ (ValPost env s1 cb.reg) (Sem.evalE env s1 b) (execInstrs env c1 cb.instrs))
    {K : Sem.SrcState → Val → Val → Sem.Res} {last : List VInstr} {Q : Sem.SrcState → Val → Conn → Prop}
    (hlast : ∀ s2 c2, Sim ρ s2 c2 → RegsWf c2 → s2.ev = s.ev →
      Agrees ρ Q (K s2 (readReg env c2 ca.reg) (readReg env c2 cb.reg)) (execInstrs env c2 last)) :
    Agrees ρ Q (andThen (Sem.evalE env s a) fun s1 av => andThen (Sem.evalE env s1 b) fun s2 bv => K s2 av bv)
      (execInstrs env c (ca.instrs ++ cb.instrs ++ last)) := by
  obtain ⟨_, sl2, _⟩ := lowerE_shape hρ a k ca ha
  obtain ⟨_, _, sr3⟩ := lowerE_shape hρ b ca.k cb hb
  rw [List.append_assoc]
  refine Ha.andThen ?_
  rintro s1 av c1 - sim1 wf1 ⟨rda, hev1⟩
  refine (Hb s1 c1 sim1 wf1).andThen ?_
  rintro s2 bv c2 hx2 sim2 wf2 ⟨rdb, hev2⟩
  have rda2 : readReg env c2 ca.reg = av := by
    have := execInstrs_read_other env env ca.reg cb.instrs c1
      (fun i hi => operand_safe hρ ha hz (sr3 i hi) (fun h => (sl2 h).2))
    rw [hx2] at this
    exact this.trans rda
  subst rda2 rdb
  exact hlast s2 c2 sim2 wf2 (hev2.trans hev1)

/-- stage 1 as a predicate of the expression: what the induction proves, and what the node lemmas assume of the
operands -/
def Stage1Sem (ρ : Rho) (e : Expr) : Prop :=
  valueE e = true → litsOkE e = true → ∀ (k : Nat) (le : LE) (env : Env) (s : Sem.SrcState) (c : Conn),
    lowerE ρ e k = some le → Sim ρ s c → RegsWf c → TmpsOk le.instrs →
    Agrees ρ (ValPost env s le.reg) (Sem.evalE env s e) (execInstrs env c le.instrs)

theorem bindNode_agrees {ρ : Rho} {decls : List Sem.VarDecl} (hρ : RhoOk ρ decls) {x : Name} {r : Expr}
    (hR : Stage1Sem ρ r) (hvr : valueE r = true) (hlr : litsOkE r = true) (hp : Sem.primIndex x = none)
    {k : Nat} {le : LE} (hle : lowerE ρ (.sexp .bind (.atom (.name x)) r) k = some le)
    (env : Env) {s : Sem.SrcState} {c : Conn} (sim : Sim ρ s c) (wf : RegsWf c) (ht : TmpsOk le.instrs) :
    Agrees ρ (BindPost env s x le.reg) (Sem.evalE env s (.sexp .bind (.atom (.name x)) r))
      (execInstrs env c le.instrs) := by
  obtain ⟨rx, cr, hx, hr, rfl⟩ := lowerE_bind_inv (valueE_not_cond hvr) hle
  rw [evalE_bind (valueE_not_cond hvr)]
  refine (hR hvr hlr k cr env s c hr sim wf (TmpsOk.append ht).1).andThen ?_
  rintro s1 v c1 - sim1 wf1 ⟨rd, hev⟩
  subst rd
  exact (bind_step hρ hx hp sim1 wf1 cr.reg).mono fun s2 v' h => ⟨h.1, fun hf => (h.2 hf).trans hev⟩

theorem guardNode_agrees {ρ : Rho} {decls : List Sem.VarDecl} (hρ : RhoOk ρ decls) {x : Name} {op : Op} {a b : Expr}
    {code : Nat} (hc : condCode op = some code) (hA : Stage1Sem ρ a) (hB : Stage1Sem ρ b)
    (hva : valueE a = true) (hvb : valueE b = true) (hz : noHazard a b = true)
    (hlit : litsOkE (.sexp op a b) = true) (hp : Sem.primIndex x = none)
    {k : Nat} {le : LE} (hle : lowerE ρ (.sexp .bind (.atom (.name x)) (.sexp op a b)) k = some le)
    (env : Env) {s : Sem.SrcState} {c : Conn} (sim : Sim ρ s c) (wf : RegsWf c) (ht : TmpsOk le.instrs) :
    Agrees ρ (BindPost env s x le.reg) (Sem.evalE env s (.sexp .bind (.atom (.name x)) (.sexp op a b)))
      (execInstrs env c le.instrs) := by
  obtain ⟨rx, ca, cb, hx, ha, hb, rfl⟩ := lowerE_guard_inv hc hle
  obtain ⟨hla, hlb⟩ := litsOkE_sexp hlit
  obtain ⟨ht1, ht2, -⟩ := forall_mem_node ht
  rw [evalE_guard hc]
  refine operands_agree hρ ha hb hz (hA hva hla k ca env s c ha sim wf ht1)
    (fun s1 c1 sim1 wf1 => hB hvb hlb ca.k cb env s1 c1 hb sim1 wf1 ht2) ?_
  intro s2 c2 sim2 wf2 hev
  exact (guard_step hρ hc hx hp sim2 wf2 ca.reg cb.reg).mono fun s3 v h => ⟨h.1, fun hf => (h.2 hf).trans hev⟩

theorem opNode_agrees {ρ : Rho} {decls : List Sem.VarDecl} (hρ : RhoOk ρ decls) {o : Op} {l r : Expr} {code : Nat}
    (ho : pureOpcode o = some code) (hL : Stage1Sem ρ l) (hR : Stage1Sem ρ r)
    (hvl : valueE l = true) (hvr : valueE r = true) (hz : noHazard l r = true)
    (hlit : litsOkE (.sexp o l r) = true)
    {k : Nat} {le : LE} (hle : lowerE ρ (.sexp o l r) k = some le)
    (env : Env) {s : Sem.SrcState} {c : Conn} (sim : Sim ρ s c) (wf : RegsWf c) (ht : TmpsOk le.instrs) :
    Agrees ρ (ValPost env s le.reg) (Sem.evalE env s (.sexp o l r)) (execInstrs env c le.instrs) := by
  obtain ⟨cl, cr, hl, hr, rfl⟩ := lowerE_op_inv ho hle
  obtain ⟨hll, hlr⟩ := litsOkE_sexp hlit
  obtain ⟨ht1, ht2, hk8, -⟩ := forall_mem_node ht
  rw [evalE_op ho]
  refine operands_agree hρ hl hr hz (hL hvl hll k cl env s c hl sim wf ht1)
    (fun s1 c1 sim1 wf1 => hR hvr hlr cl.k cr env s1 c1 hr sim1 wf1 ht2) ?_
  intro s2 c2 sim2 wf2 hev
  rcases alu_step env s2 c2 ho (vTmp cr.k) cl.reg cr.reg with ⟨v, hres, hx⟩ | ⟨rc, hres, hrc, hx⟩ | hres <;>
    rw [hres]
  · rw [hx]
    exact ⟨rfl, sim2.writeTmp hρ env v cr.k, writeReg_wf _ _ _ _ wf2,
      readReg_writeReg_self env env c2 v (vTmp cr.k) wf2 ⟨.tmp, rfl, hk8 rfl⟩, hev⟩
  · rw [hx]
    exact ⟨hrc, rfl, sim2, wf2⟩
  · trivial

/-- **Stage 1.** A lowered value expression computes its source value into its result register; the machine
state reached represents the source state reached (nested assignments are performed on both sides), also when
the expression faults (same code, negative; the states then hold the assignments made before the fault) -/
theorem lowerE_agrees {ρ : Rho} {decls : List Sem.VarDecl} (hρ : RhoOk ρ decls) : ∀ e, Stage1Sem ρ e := by
  intro e
  induction e using Expr.ind2 with
  | cmd _ | none => intro hp; simp [valueE] at hp
  | atom p =>
    intro _ hlit k le env s c hle sim wf _
    cases p with
    | bool b =>
      simp only [lowerE, Option.some.injEq] at hle; subst hle
      exact ⟨rfl, sim, wf, readReg_immBool env c b, rfl⟩
    | num n =>
      simp only [lowerE, Option.some.injEq] at hle; subst hle
      exact ⟨rfl, sim, wf, readReg_immNum env c n hlit, rfl⟩
    | name x =>
      simp only [lowerE, Option.map_eq_some_iff] at hle
      obtain ⟨r, hr, rfl⟩ := hle
      exact ⟨rfl, sim, wf, sim.1 env x r hr, rfl⟩
  | sexp o l r ihl ihr ihsub =>
    intro hp hlit k le env s c hle sim wf ht
    rcases valueE_sexp_cases hp with ⟨x, rfl, rfl, hnb, hvr⟩ |
      ⟨x, op, a, b, gcode, rfl, rfl, rfl, hc, hnb, hva, hvb, hz⟩ | ⟨code, ho, hvl, hvr, hz⟩
    · obtain ⟨-, -, -, n4, -, -, hprim⟩ := nonbuiltin_facts hnb
      exact (bindNode_agrees hρ ihr hvr (litsOkE_sexp hlit).2 hprim hle env sim wf ht).mono
        fun _ _ h => ⟨h.1, h.2 n4⟩
    · obtain ⟨iha, ihb⟩ := ihsub op a b rfl
      obtain ⟨-, -, -, n4, -, -, hprim⟩ := nonbuiltin_facts hnb
      exact (guardNode_agrees hρ hc iha ihb hva hvb hz (litsOkE_sexp hlit).2 hprim hle env sim wf ht).mono
        fun _ _ h => ⟨h.1, h.2 n4⟩
    · exact opNode_agrees hρ ho ihl ihr hvl hvr hz hlit hle env sim wf ht

theorem noFlagWriteE_bind {x : Name} {rhs : Expr} (h : noFlagWriteE (.sexp .bind (.atom (.name x)) rhs) = true) :
    x ≠ "__eventFlag".toList := of_decide_eq_true h

theorem writesOkE_bind {x : Name} {rhs : Expr} (h : writesOkE (.sexp .bind (.atom (.name x)) rhs) = true) :
    Sem.primIndex x = none := Option.isNone_iff_eq_none.mp h

theorem litsOkE_bind {x : Name} {rhs : Expr} (h : litsOkE (.sexp .bind (.atom (.name x)) rhs) = true) :
    litsOkE rhs = true := (litsOkE_sexp h).2

/-- **Stage 2.** One statement: the lowered code performs the assignment (and the nested ones). A statement is
the expression it is, lowered from temporary 0 (`lowerStmt_node`); at statement level the target may be an implicit
register, and only an assignment to `__eventFlag` touches the event flag -/
theorem lowerStmt_agrees {ρ : Rho} {decls : List Sem.VarDecl} (hρ : RhoOk ρ decls) {e : Expr} {is : List VInstr}
    (hok : stmtOk2 e = true) (hne : e ≠ .none) (hlit : litsOkE e = true) (hw : writesOkE e = true)
    (hlow : lowerStmt ρ e = some is) (ht : TmpsOk is) (env : Env) (s : Sem.SrcState) (c : Conn)
    (sim : Sim ρ s c) (wf : RegsWf c) :
    Agrees ρ (fun s' _ _ => noFlagWriteE e = true → s'.ev = s.ev) (Sem.evalE env s e) (execInstrs env c is) := by
  rcases stmtOk2_cases hok with rfl | ⟨o, l, r, code, rfl, ho, hv⟩ | ⟨x, rhs, rfl, hforms⟩
  · exact absurd rfl hne
  · rw [lowerStmt_node] at hlow
    obtain ⟨le, hle, rfl⟩ := Option.map_eq_some_iff.mp hlow
    rw [valueE_op ho, Bool.and_eq_true, Bool.and_eq_true] at hv
    exact (opNode_agrees hρ ho (lowerE_agrees hρ l) (lowerE_agrees hρ r) hv.1.1 hv.1.2 hv.2 hlit hle env sim wf
      ht).mono fun _ _ h _ => h.2
  · rw [lowerStmt_node] at hlow
    obtain ⟨le, hle, rfl⟩ := Option.map_eq_some_iff.mp hlow
    have hp : Sem.primIndex x = none := writesOkE_bind hw
    rcases hforms with ⟨op, a, b, code, rfl, hc, hva, hvb, hz⟩ | hv
    · exact (guardNode_agrees hρ hc (lowerE_agrees hρ a) (lowerE_agrees hρ b) hva hvb hz (litsOkE_bind hlit) hp hle
        env sim wf ht).mono fun _ _ h hf => h.2 (noFlagWriteE_bind hf)
    · exact (bindNode_agrees hρ (lowerE_agrees hρ rhs) hv (litsOkE_bind hlit) hp hle env sim wf ht).mono
        fun _ _ h hf => h.2 (noFlagWriteE_bind hf)

theorem evalStmts_cons (env : Env) (s : Sem.SrcState) (e : Expr) (rest : List Expr) (hne : e ≠ .none) :
    Sem.evalStmts env s (e :: rest) = andThen (Sem.evalE env s e) fun s' _ => Sem.evalStmts env s' rest := by
  rw [Sem.evalStmts] <;> first | rfl | (intro h; exact hne h)

/-! ## The results in the forms the checks audit

The proof runs through `Agrees` and uses nothing below. These are the statements of stages 1 and 2 as results: as
the disjunction `Agrees.cases` gives (`ValRes`, `StmtRes`) and as a `match` on the source outcome with the syntactic
facts (`lowerE_shape`) and the frame added (`lowerE_correct`, `lowerStmt_correct`: names the audit of C01 lists, like
`lowerEvents_correct` in `LowerRun.lean`). `KeepsState` / `evalE_pure_state` and `TmpFrame` serve the `match` forms on
pure expressions only (`lowerE_correct_pure` here, `lowerFlag_correct` there). What nothing uses at all is kept
because the end results are fixed. -/

theorem pure_not_cond {e : Expr} (hp : pureE e = true) :
    (∀ c v, e = .sexp .if c v → False) ∧ (∀ c v, e = .sexp .notIf c v → False) ∧
    (∀ a v, e = .sexp .ewma a v → False) :=
  valueE_not_cond (valueE_of_pure hp)

theorem stmtOk_cases {e : Expr} (h : stmtOk e = true) :
    e = .none ∨ ∃ x rhs, e = .sexp .bind (.atom (.name x)) rhs ∧
      ((∃ c v, rhs = .sexp .if c v ∧ pureE c = true ∧ pureE v = true) ∨
       (∃ c v, rhs = .sexp .notIf c v ∧ pureE c = true ∧ pureE v = true) ∨
       (∃ c v, rhs = .sexp .ewma c v ∧ pureE c = true ∧ pureE v = true) ∨
       pureE rhs = true) := by
  unfold stmtOk at h
  split at h
  · exact .inl rfl
  · rw [Bool.and_eq_true] at h; exact .inr ⟨_, _, rfl, .inl ⟨_, _, rfl, h⟩⟩
  · rw [Bool.and_eq_true] at h; exact .inr ⟨_, _, rfl, .inr (.inl ⟨_, _, rfl, h⟩)⟩
  · rw [Bool.and_eq_true] at h; exact .inr ⟨_, _, rfl, .inr (.inr (.inl ⟨_, _, rfl, h⟩))⟩
  · exact .inr ⟨_, _, rfl, .inr (.inr (.inr h))⟩
  · cases h

theorem lookupVar_nil (x : Name) : Sem.lookupVar [] x = 0 := rfl


/-- `Agrees ρ (ValPost env s reg) (Sem.evalE env s e) (execInstrs env c is)` as a disjunction -/
def ValRes (ρ : Rho) (env : Env) (s : Sem.SrcState) (c : Conn) (e : Expr) (is : List VInstr)
    (reg : VReg) : Prop :=
  (∃ s' v c', Sem.evalE env s e = .ok s' v ∧ execInstrs env c is = (c', 0) ∧ Sim ρ s' c' ∧ RegsWf c' ∧
      readReg env c' reg = v ∧ s'.ev = s.ev) ∨
  (∃ s' rc c', Sem.evalE env s e = .fault s' rc ∧ rc < 0 ∧ execInstrs env c is = (c', rc) ∧ Sim ρ s' c' ∧
      RegsWf c') ∨
  Sem.evalE env s e = .outside

theorem lowerE_res {ρ : Rho} {decls : List Sem.VarDecl} (hρ : RhoOk ρ decls) :
    ∀ (e : Expr), valueE e = true → litsOkE e = true → ∀ (k : Nat) (le : LE) (env : Env) (s : Sem.SrcState)
      (c : Conn), lowerE ρ e k = some le → Sim ρ s c → RegsWf c → TmpsOk le.instrs →
      (le.reg.cls = 7 → le.reg.idx < 8) → ValRes ρ env s c e le.instrs le.reg := by
  intro e hp hlit k le env s c hle sim wf ht _
  exact (lowerE_agrees hρ e hp hlit k le env s c hle sim wf ht).cases

/-- both operands of a two-operand construct, the second lowered from the counter where the first stopped, as a
disjunction. It is the hypothesis of `guard_res` and concluded by nothing: the proof runs on `operands_agree` -/
def OperandsRes (ρ : Rho) (env : Env) (s : Sem.SrcState) (c : Conn) (l r : Expr) (cl cr : LE) : Prop :=
  (∃ s1 s2 a b c', Sem.evalE env s l = .ok s1 a ∧ Sem.evalE env s1 r = .ok s2 b ∧
      execInstrs env c (cl.instrs ++ cr.instrs) = (c', 0) ∧ Sim ρ s2 c' ∧ RegsWf c' ∧
      readReg env c' cl.reg = a ∧ readReg env c' cr.reg = b ∧ s2.ev = s.ev) ∨
  (∃ sf rc c', (Sem.evalE env s l = .fault sf rc ∨
        ∃ s1 a, Sem.evalE env s l = .ok s1 a ∧ Sem.evalE env s1 r = .fault sf rc) ∧
      rc < 0 ∧ execInstrs env c (cl.instrs ++ cr.instrs) = (c', rc) ∧ Sim ρ sf c' ∧ RegsWf c') ∨
  (Sem.evalE env s l = .outside ∨ ∃ s1 a, Sem.evalE env s l = .ok s1 a ∧ Sem.evalE env s1 r = .outside)

/-- a guarded bind `(:= x (op a b))` whose operands have run: the in-place instruction on the register of `x`; the
value of the construct is the value of `x` afterwards (statement or nested) -/
theorem guard_res {ρ : Rho} {decls : List Sem.VarDecl} (hρ : RhoOk ρ decls) {op : Op} {code : Nat}
    (hc : condCode op = some code) {x : Name} {tx : VReg} (hx : ρ x = some tx) (hp : Sem.primIndex x = none)
    {env : Env} {s : Sem.SrcState} {c : Conn} {a b : Expr} {ca cb : LE}
    (h : OperandsRes ρ env s c a b ca cb) :
    (∃ s' c', Sem.evalE env s (.sexp .bind (.atom (.name x)) (.sexp op a b)) = .ok s' (Sem.read env s' x) ∧
      execInstrs env c (ca.instrs ++ cb.instrs ++ [⟨code, tx, ca.reg, cb.reg⟩]) = (c', 0) ∧ Sim ρ s' c' ∧
      RegsWf c' ∧ (x ≠ "__eventFlag".toList → s'.ev = s.ev)) ∨
    (∃ s' rc c', Sem.evalE env s (.sexp .bind (.atom (.name x)) (.sexp op a b)) = .fault s' rc ∧ rc < 0 ∧
      execInstrs env c (ca.instrs ++ cb.instrs ++ [⟨code, tx, ca.reg, cb.reg⟩]) = (c', rc) ∧ Sim ρ s' c' ∧
      RegsWf c') ∨
    Sem.evalE env s (.sexp .bind (.atom (.name x)) (.sexp op a b)) = .outside := by
  rcases h with ⟨s1, s2, av, bv, c', ea, eb, x1, sim', wf', ra, rb, hev⟩ | ⟨sf, rc, c', hev, hrc, x1, sim', wf'⟩ | hev
  · have g := guard_step hρ hc hx hp (env := env) sim' wf' ca.reg cb.reg
    rw [ra, rb] at g
    rw [evalE_guard hc, ea, andThen_ok, eb, andThen_ok, execInstrs_append_ok _ x1]
    rcases g.cases with ⟨s', v, c3, er, hx', sim3, wf3, rd, hev3⟩ | ⟨s', rc, c3, er, hrc, hx', sim3, wf3⟩ | er
    · refine .inl ⟨s', c3, ?_, hx', sim3, wf3, fun h => (hev3 h).trans hev⟩
      rw [er, ← rd, sim3.1 env x tx hx]
    · exact .inr (.inl ⟨s', rc, c3, er, hrc, hx', sim3, wf3⟩)
    · exact .inr (.inr er)
  · refine .inr (.inl ⟨sf, rc, c', ?_, hrc, execInstrs_append_fault _ x1 hrc, sim', wf'⟩)
    rcases hev with ea | ⟨s1, av, ea, eb⟩
    · rw [evalE_guard hc, ea, andThen_fault]
    · rw [evalE_guard hc, ea, andThen_ok, eb, andThen_fault]
  · refine .inr (.inr ?_)
    rcases hev with ea | ⟨s1, av, ea, eb⟩
    · rw [evalE_guard hc, ea, andThen_outside]
    · rw [evalE_guard hc, ea, andThen_ok, eb, andThen_outside]

/-- stage 1 (`lowerE_agrees`) as a `match` on the source outcome. The first conjunct is the syntactic part
(`lowerE_shape`); the last component of the two executing cases is the frame: every register that is neither a
temporary at or above the entry counter nor the cell of an assigned variable reads as before. -/
theorem lowerE_correct {ρ : Rho} {decls : List Sem.VarDecl} (hρ : RhoOk ρ decls)
    (e : Expr) (hp : valueE e = true) (hlit : litsOkE e = true) (k : Nat) (le : LE)
    (hle : lowerE ρ e k = some le) (env : Env) (s : Sem.SrcState) (c : Conn)
    (hsim : Sim ρ s c) (hwf : RegsWf c) (ht : TmpsOk le.instrs) (hreg : le.reg.cls = 7 → le.reg.idx < 8) :
    (k ≤ le.k ∧ (le.reg.cls = 7 → k ≤ le.reg.idx ∧ le.reg.idx < le.k) ∧
      ∀ i ∈ le.instrs, InstrShape ρ (writesIn e) k le.k i) ∧
    match Sem.evalE env s e with
    | .ok s' v => s'.ev = s.ev ∧ ∃ c', execInstrs env c le.instrs = (c', 0) ∧ Sim ρ s' c' ∧ RegsWf c' ∧
        readReg env c' le.reg = v ∧
        ∀ env' reg, (reg.cls = 7 → reg.idx < k) → (∀ y ∈ writesIn e, ∀ ry, ρ y = some ry → ¬ sameCell ry reg) →
          readReg env' c' reg = readReg env' c reg
    | .fault s' rc => rc < 0 ∧ ∃ c', execInstrs env c le.instrs = (c', rc) ∧ Sim ρ s' c' ∧ RegsWf c' ∧
        ∀ env' reg, (reg.cls = 7 → reg.idx < k) → (∀ y ∈ writesIn e, ∀ ry, ρ y = some ry → ¬ sameCell ry reg) →
          readReg env' c' reg = readReg env' c reg
    | .outside => True
    | .notDenoted => False := by
  have hshape := lowerE_shape hρ e k le hle
  refine ⟨hshape, ?_⟩
  have frame : ∀ c' rc, execInstrs env c le.instrs = (c', rc) → ∀ env' reg, (reg.cls = 7 → reg.idx < k) →
      (∀ y ∈ writesIn e, ∀ ry, ρ y = some ry → ¬ sameCell ry reg) → readReg env' c' reg = readReg env' c reg := by
    intro c' rc hx env' reg h7 hW
    have := execInstrs_read_other env env' reg le.instrs c (fun i hi => (hshape.2.2 i hi).ret_ne h7 hW)
    rw [hx] at this
    exact this
  rcases lowerE_res hρ e hp hlit k le env s c hle hsim hwf ht hreg with
    ⟨s', v, c', ev, x, sim', wf', rd, hev⟩ | ⟨s', rc, c', ev, hrc, x, sim', wf'⟩ | ev
  · rw [ev]; exact ⟨hev, c', x, sim', wf', rd, frame c' 0 x⟩
  · rw [ev]; exact ⟨hrc, c', x, sim', wf', frame c' rc x⟩
  · rw [ev]; trivial

/-- the outcome carries the state `s` (if it carries a state) -/
def KeepsState (s : Sem.SrcState) (res : Sem.Res) : Prop :=
  (∀ s' v, res = .ok s' v → s' = s) ∧ (∀ s' rc, res = .fault s' rc → s' = s)

theorem KeepsState.ok (s : Sem.SrcState) (v : Val) : KeepsState s (.ok s v) :=
  ⟨fun _ _ h => (by cases h; rfl), fun _ _ h => (by cases h)⟩

theorem KeepsState.fault (s : Sem.SrcState) (rc : Int) : KeepsState s (.fault s rc) :=
  ⟨fun _ _ h => (by cases h), fun _ _ h => (by cases h; rfl)⟩

theorem KeepsState.outside (s : Sem.SrcState) : KeepsState s .outside :=
  ⟨fun _ _ h => (by cases h), fun _ _ h => (by cases h)⟩

theorem KeepsState.notDenoted (s : Sem.SrcState) : KeepsState s .notDenoted :=
  ⟨fun _ _ h => (by cases h), fun _ _ h => (by cases h)⟩

theorem KeepsState.andThen {s : Sem.SrcState} {r : Sem.Res} {k : Sem.SrcState → Val → Sem.Res}
    (h : KeepsState s r) (hk : ∀ v, KeepsState s (k s v)) : KeepsState s (andThen r k) := by
  cases r with
  | ok s' v =>
    have := h.1 s' v rfl
    subst this
    exact hk v
  | fault s' rc => exact h
  | notDenoted => exact h
  | outside => exact h

theorem KeepsState.opRes (o : Op) (s : Sem.SrcState) (a b : Val) : KeepsState s (opRes o s a b) := by
  unfold Frag.opRes
  split
  · split
    · exact .ok _ _
    · exact .outside _
  · split
    · split
      · exact .ok _ _
      · exact .outside _
    · split
      · exact .ok _ _
      · exact .fault _ _

theorem evalE_pure_state {env : Env} :
    ∀ (e : Expr), pureE e = true → ∀ (s : Sem.SrcState), KeepsState s (Sem.evalE env s e) := by
  intro e
  induction e with
  | cmd _ | none => intro hp; cases hp
  | atom p =>
    intro _ s
    cases p <;> simp only [Sem.evalE] <;> exact KeepsState.ok _ _
  | sexp o l r ihl ihr =>
    intro hp s
    obtain ⟨⟨code, ho⟩, hpl, hpr⟩ := pureE_sexp hp
    rw [evalE_op ho]
    exact (ihl hpl s).andThen fun a => (ihr hpr s).andThen fun b => .opRes o s a b

/-- `c'` differs from `c` at most in the temporaries, and those below `k` are unchanged -/
structure TmpFrame (k : Nat) (c c' : Conn) : Prop where
  report : c'.regs.report = c.regs.report
  control : c'.regs.control = c.regs.control
  impl : c'.regs.impl = c.regs.impl
  loc : c'.regs.loc = c.regs.loc
  t0 : c'.t0 = c.t0
  programIndex : c'.programIndex = c.programIndex
  staged : c'.staged = c.staged
  pending : c'.pending = c.pending
  tmpLen : c'.regs.tmp.length = c.regs.tmp.length
  tmp : ∀ j, j < k → c'.regs.tmp.getD j 0 = c.regs.tmp.getD j 0

theorem TmpFrame.refl (k : Nat) (c : Conn) : TmpFrame k c c :=
  ⟨rfl, rfl, rfl, rfl, rfl, rfl, rfl, rfl, rfl, fun _ _ => rfl⟩

theorem TmpFrame.trans {k k' : Nat} {c c' c'' : Conn} (h1 : TmpFrame k c c') (h2 : TmpFrame k' c' c'')
    (hk : k ≤ k') : TmpFrame k c c'' :=
  ⟨h2.report.trans h1.report, h2.control.trans h1.control, h2.impl.trans h1.impl, h2.loc.trans h1.loc,
   h2.t0.trans h1.t0, h2.programIndex.trans h1.programIndex, h2.staged.trans h1.staged,
   h2.pending.trans h1.pending, h2.tmpLen.trans h1.tmpLen,
   fun j hj => (h2.tmp j (by omega)).trans (h1.tmp j hj)⟩

theorem TmpFrame.mono {k k' : Nat} {c c' : Conn} (h : TmpFrame k' c c') (hk : k ≤ k') : TmpFrame k c c' :=
  { h with tmp := fun j hj => h.tmp j (by omega) }

theorem TmpFrame.writeTmp (env : Env) (c : Conn) (v : Val) (k j : Nat) (hk : k ≤ j) :
    TmpFrame k c (writeReg env c v (vTmp j)) := by
  obtain ⟨h1, h2, h3⟩ := writeReg_frame env c v (r := vTmp j) (f := .tmp) (i := j) rfl
  have kp := writeReg_keep env c v (vTmp j)
  exact ⟨h1 .report (by decide), h1 .control (by decide), h1 .impl (by decide), h1 .loc (by decide),
    writeReg_t0 env c v _ (fun h => by cases h), kp.pi, kp.st, kp.pend, h2, fun i hi => h3 i (by omega)⟩

theorem TmpFrame.wf {k : Nat} {c c' : Conn} (h : TmpFrame k c c') (hwf : RegsWf c) : RegsWf c' := by
  obtain ⟨h1, h2, h3, h4, h5⟩ := hwf
  exact ⟨by rw [h.report]; exact h1, by rw [h.control]; exact h2, by rw [h.impl]; exact h3,
    by rw [h.tmpLen]; exact h4, by rw [h.loc]; exact h5⟩

theorem execInstrs_tmpFrame (env : Env) (k : Nat) (is : List VInstr) (c : Conn)
    (h : ∀ i ∈ is, i.ret.cls = 7 ∧ k ≤ i.ret.idx) : TmpFrame k c (execInstrs env c is).1 :=
  execInstrs_inv env (TmpFrame k c) is c (TmpFrame.refl k c) fun i hi c' v hc => by
    have e : i.ret = vTmp i.ret.idx := by
      unfold vTmp
      rw [← (h i hi).1]
    rw [e]
    exact hc.trans (TmpFrame.writeTmp env c' v k _ (h i hi).2) (Nat.le_refl k)

/-- stage 1 on pure expressions, as a `match`: the source state does not change (`KeepsState`), and only
temporaries at or above the entry counter are touched (`TmpFrame`) -/
theorem lowerE_correct_pure {ρ : Rho} {decls : List Sem.VarDecl} (hρ : RhoOk ρ decls)
    (e : Expr) (hp : pureE e = true) (hlit : litsOkE e = true) (k : Nat) (le : LE)
    (hle : lowerE ρ e k = some le) (env : Env) (s : Sem.SrcState) (c : Conn)
    (hsim : Sim ρ s c) (hwf : RegsWf c) (ht : TmpsOk le.instrs) (hreg : le.reg.cls = 7 → le.reg.idx < 8) :
    (k ≤ le.k ∧ (le.reg.cls = 7 → k ≤ le.reg.idx ∧ le.reg.idx < le.k) ∧
      ∀ i ∈ le.instrs, i.ret.cls = 7 ∧ k ≤ i.ret.idx ∧ i.ret.idx < le.k ∧ AluOp i.op) ∧
    match Sem.evalE env s e with
    | .ok s' v => s' = s ∧ ∃ c', execInstrs env c le.instrs = (c', 0) ∧ Sim ρ s c' ∧ RegsWf c' ∧
        readReg env c' le.reg = v ∧ TmpFrame k c c'
    | .fault s' rc => s' = s ∧ rc < 0 ∧ ∃ c', execInstrs env c le.instrs = (c', rc) ∧ Sim ρ s c' ∧
        RegsWf c' ∧ TmpFrame k c c'
    | .outside => True
    | .notDenoted => False := by
  have hshape := lowerE_shape hρ e k le hle
  have hpure := lowerE_shape_pure hρ hp hle
  refine ⟨⟨hshape.1, hshape.2.1, hpure⟩, ?_⟩
  have frame : ∀ c' rc, execInstrs env c le.instrs = (c', rc) → TmpFrame k c c' := by
    intro c' rc hx
    have := execInstrs_tmpFrame env k le.instrs c (fun i hi => ⟨(hpure i hi).1, (hpure i hi).2.1⟩)
    rw [hx] at this; exact this
  obtain ⟨st1, st2⟩ := evalE_pure_state (env := env) e hp s
  rcases lowerE_res hρ e (valueE_of_pure hp) hlit k le env s c hle hsim hwf ht hreg with
    ⟨s', v, c', ev, x, sim', wf', rd, hev⟩ | ⟨s', rc, c', ev, hrc, x, sim', wf'⟩ | ev
  · have := st1 s' v ev; subst this
    rw [ev]; exact ⟨rfl, c', x, sim', wf', rd, frame c' 0 x⟩
  · have := st2 s' rc ev; subst this
    rw [ev]; exact ⟨rfl, hrc, c', x, sim', wf', frame c' rc x⟩
  · rw [ev]; trivial

/-- what `lowerStmt_agrees` concludes, as a disjunction -/
def StmtRes (ρ : Rho) (env : Env) (s : Sem.SrcState) (c : Conn) (e : Expr) (is : List VInstr) : Prop :=
  (∃ s' v c', Sem.evalE env s e = .ok s' v ∧ execInstrs env c is = (c', 0) ∧ Sim ρ s' c' ∧ RegsWf c' ∧
      (noFlagWriteE e = true → s'.ev = s.ev)) ∨
  (∃ s' rc c', Sem.evalE env s e = .fault s' rc ∧ rc < 0 ∧ execInstrs env c is = (c', rc) ∧ Sim ρ s' c' ∧
      RegsWf c') ∨
  Sem.evalE env s e = .outside

theorem lowerStmt_res {ρ : Rho} {decls : List Sem.VarDecl} (hρ : RhoOk ρ decls) {e : Expr} {is : List VInstr}
    (hok : stmtOk2 e = true) (hne : e ≠ .none) (hlit : litsOkE e = true) (hw : writesOkE e = true)
    (hlow : lowerStmt ρ e = some is) (ht : TmpsOk is) (env : Env) (s : Sem.SrcState) (c : Conn)
    (sim : Sim ρ s c) (wf : RegsWf c) : StmtRes ρ env s c e is :=
  (lowerStmt_agrees hρ hok hne hlit hw hlow ht env s c sim wf).cases

/-- stage 2 (`lowerStmt_agrees`) as a `match`, on `evalStmts` of the one statement so that a comment is covered
too (no code) -/
theorem lowerStmt_correct {ρ : Rho} {decls : List Sem.VarDecl} (hρ : RhoOk ρ decls) (e : Expr) (is : List VInstr)
    (hok : stmtOk2 e = true) (hlit : litsOkE e = true) (hw : writesOkE e = true)
    (hlow : lowerStmt ρ e = some is) (ht : TmpsOk is) (env : Env) (s : Sem.SrcState) (c : Conn)
    (sim : Sim ρ s c) (wf : RegsWf c) :
    match Sem.evalStmts env s [e] with
    | .ok s' _ => ∃ c', execInstrs env c is = (c', 0) ∧ Sim ρ s' c' ∧ RegsWf c' ∧
        (noFlagWriteE e = true → s'.ev = s.ev)
    | .fault s' rc => rc < 0 ∧ ∃ c', execInstrs env c is = (c', rc) ∧ Sim ρ s' c' ∧ RegsWf c'
    | .outside => True
    | .notDenoted => False := by
  by_cases hne : e = .none
  · subst hne
    rw [lowerStmt] at hlow; cases hlow
    exact ⟨c, rfl, sim, wf, fun _ => rfl⟩
  · rw [evalStmts_cons env s e [] hne]
    rcases lowerStmt_res hρ hok hne hlit hw hlow ht env s c sim wf with
      ⟨s', v, c', ev, x, sim', wf', hev⟩ | ⟨s', rc, c', ev, hrc, x, sim', wf'⟩ | ev
    · rw [ev]; exact ⟨c', x, sim', wf', hev⟩
    · rw [ev]; exact ⟨hrc, c', x, sim', wf'⟩
    · rw [ev]; trivial

end Portus.Lang.Frag
