import PortusModel.Lemmas.TextEval
import PortusModel.Lemmas.AcceptValue
import PortusModel.Props.C13
/-!
# C20, acceptance: a program that `WellTyped` accepts is compiled and encoded (`well_typed_accepted`)

The stage lemmas of `AcceptValue.lean` are started from the scope the declaration pass and the overrides leave
(`Start`: it agrees with the environment `WellTyped` starts from, and its `def` preamble encodes; the facts about
the declaration pass come from `Props/C13`). Then concrete programs, accepted and rejected (`ill_verdicts`), and
programs the compiler rejects although the grammar allows them (`finding_verdicts`).
-/
namespace Portus.Lang.Typing
open Portus Portus.Lang

theorem lookup_append (x : Name) (a b : Env) :
    lookup x (a ++ b) = match lookup x a with
      | some kt => some kt
      | none => lookup x b := by
  rw [lookup_eq, lookup_eq, lookup_eq, List.lookup_append]
  cases List.lookup x a <;> rfl

theorem lookup_mem {x : Name} {kt : Kind × Ty} {Γ : Env} (h : lookup x Γ = some kt) : (x, kt) ∈ Γ :=
  Assoc.mem_of_lookup (lookup_eq x Γ ▸ h)

theorem lookup_declEnv_some {x : Name} {kt : Kind × Ty} {ds : List Decl} (h : lookup x (declEnv ds) = some kt) :
    ∃ d ∈ ds, d.var = x ∧ kt = (Kind.var, (declTy d.init).getD Ty.num) := by
  obtain ⟨d, hd, e⟩ := List.mem_map.mp (lookup_mem h)
  simp only [Prod.mk.injEq] at e
  exact ⟨d, hd, e.1, e.2.symm⟩

theorem lookup_declEnv_none {x : Name} {ds : List Decl} (h : lookup x (declEnv ds) = none) :
    ∀ d ∈ ds, d.var ≠ x := by
  intro d hd e
  rw [lookup_eq, List.lookup_eq_none_iff] at h
  simpa [e] using h _ (List.mem_map.mpr ⟨d, hd, rfl⟩)

def tyLit : Lang.Ty → Bool
  | .num (some n) => litOk n
  | _ => true

/-- what the `def` preamble needs of a bound register -/
def DefOk (r : Reg) : Prop := regOk r = true ∧ tyLit r.getType = true

/-- `builtinEnv` before its names are converted to characters: the closed facts about the built-in tables are
stated over `String` keys, which the kernel compares without decoding them -/
def builtinEnvS : List (String × Kind × Ty) :=
  primitiveNames.map (fun p => (p.1, Kind.prim, builtinTy p.2)) ++
  implicitNames.map (fun p => (p.1, Kind.impl, builtinTy p.2))

theorem builtinEnv_eq : builtinEnv = builtinEnvS.map fun p => (p.1.toList, p.2) := by
  simp only [builtinEnv, builtinEnvS, List.map_append, List.map_map]
  rfl

theorem builtinEnvS_regs : ∀ p ∈ builtinEnvS,
    ∃ q ∈ builtinTable, q.1 = p.1 ∧ kindOk p.2.1 q.2 = true ∧ tyMatch p.2.2 q.2.getType = true := by
  decide +kernel

theorem builtinTable_known : ∀ p ∈ builtinTable,
    (∃ q ∈ builtinEnvS, q.1 = p.1) ∧ p.1 ∈ Frag.primNames ++ Frag.implNames ∧
      regOk p.2 = true ∧ tyLit p.2.getType = true := by
  decide +kernel

theorem builtinEnv_noLocals : numLocals builtinEnv = 0 := by decide +kernel

theorem lookup_isSome_of_mem {x : Name} {kt : Kind × Ty} {Γ : Env} (h : (x, kt) ∈ Γ) : (lookup x Γ).isSome = true := by
  rw [lookup_eq, List.lookup_isSome_iff]
  exact ⟨_, h, beq_self_eq_true x⟩

theorem builtinEnv_get (uid : Nat) {x : Name} {k : Kind} {τ : Ty} (h : lookup x builtinEnv = some (k, τ)) :
    ∃ r, (Scope.new uid).get x = some r ∧ kindOk k r = true ∧ tyMatch τ r.getType = true := by
  have hm := lookup_mem h
  rw [builtinEnv_eq] at hm
  obtain ⟨⟨s, k', τ'⟩, hp, e⟩ := List.mem_map.mp hm
  simp only [Prod.mk.injEq] at e
  obtain ⟨rfl, rfl, rfl⟩ := e
  obtain ⟨q, hq, e, hk, ht⟩ := builtinEnvS_regs _ hp
  have hg := Scope.new_get_of_mem uid hq
  rw [e] at hg
  exact ⟨q.2, hg, hk, ht⟩

theorem builtin_get_known {uid : Nat} {x : Name} {r : Reg} (h : (Scope.new uid).get x = some r) :
    (lookup x builtinEnv).isSome = true ∧ Frag.isBuiltinName x = true ∧ DefOk r := by
  obtain ⟨s, hs, rfl⟩ := Scope.new_get_mem uid h
  obtain ⟨⟨q, hq, e⟩, hn, hd⟩ := builtinTable_known _ hs
  refine ⟨?_, Frag.isBuiltinName_iff.mpr ⟨s, hn, rfl⟩, hd⟩
  rw [builtinEnv_eq]
  exact lookup_isSome_of_mem (kt := q.2) (List.mem_map.mpr ⟨q, hq, by rw [e]⟩)

theorem declTy_match {t : Lang.Ty} (h : (declTy t).isSome = true) :
    tyMatch ((declTy t).getD Ty.num) t = true ∧ tyLit t = true := by
  cases t with
  | num v =>
    cases v with
    | none => cases h
    | some n =>
      by_cases hl : litOk n = true
      · have e : declTy (.num (some n)) = some .num := by simp only [declTy, hl, if_true]
        rw [e]; exact ⟨rfl, hl⟩
      · have e : declTy (.num (some n)) = none := by simp only [declTy, hl]; rfl
        rw [e] at h; cases h
  | bool v =>
    cases v with
    | none => cases h
    | some b => exact ⟨rfl, rfl⟩
  | name _ | none => cases h

theorem builtin_fresh (uid : Nat) {x : Name} (h : Frag.isBuiltinName x = false) : (Scope.new uid).get x = none :=
  Option.eq_none_iff_forall_ne_some.mpr fun r hg => by rw [(builtin_get_known hg).2.1] at h; cases h

structure DeclsOk (ds : List Decl) : Prop where
  all : ∀ d ∈ ds, declOk d = true
  nodup : (ds.map (·.var)).Nodup
  reports : (reportsOf ds).length ≤ 16
  controls : (controlsOf ds).length ≤ 16

theorem DeclsOk.of_check {ds : List Decl} (h : declsOk ds = true) : DeclsOk ds := by
  simp only [declsOk, Bool.and_eq_true, List.all_eq_true, decide_eq_true_eq, maxReports, maxControls] at h
  exact ⟨h.1.1.1, h.1.1.2, of_decide_eq_true h.1.2, of_decide_eq_true h.2⟩

/-- what the proof needs of the scope the events are compiled in -/
structure Start (Γ : Env) (sc : Scope) : Prop where
  inv : Inv Γ sc
  nodup : NamesNodup sc
  defOk : ∀ x r, sc.get x = some r → DefOk r

theorem numLocals_initEnv (ds : List Decl) : numLocals (initEnv ds) = 0 := by
  unfold initEnv numLocals
  rw [List.countP_append, show List.countP _ builtinEnv = 0 from builtinEnv_noLocals, Nat.add_zero, List.countP_eq_zero]
  exact List.forall_mem_map.mpr fun _ _ => Bool.false_ne_true

theorem declare_start (uid : Nat) {ds : List Decl} (hd : DeclsOk ds) :
    ∃ sc0, declareAll (Scope.new uid) ds = .ok sc0 ∧ Start (initEnv ds) sc0 := by
  have hok : ∀ d ∈ ds, (declTy d.init).isSome = true ∧ Frag.isBuiltinName d.var = false := by
    intro d hd'
    have := hd.all d hd'
    simp only [declOk, Bool.and_eq_true, Bool.not_eq_true'] at this
    exact this.1
  have hfresh : ∀ d ∈ ds, (Scope.new uid).get d.var = none := fun d hd' => builtin_fresh uid (hok d hd').2
  obtain ⟨sc0, h0⟩ := (C13.declareAll_ok_iff ds (Scope.new uid) ⟨rfl, rfl⟩).mpr
    ⟨by have := hd.reports; omega, by have := hd.controls; omega⟩
  obtain ⟨ha, hb, ⟨_, _, hnl, _⟩, hkeep, honly⟩ := C13.report_slots uid ds sc0 hd.nodup hfresh h0
  have hslot : ∀ d ∈ ds, ∃ r, sc0.get d.var = some r ∧ kindOk .var r = true ∧ r.getType = d.init := by
    intro d hd'
    rcases mem_reportsOf_or_controlsOf hd' with ⟨k, hk, rfl⟩ | ⟨k, hk, rfl⟩
    · refine ⟨_, ha k hk, ?_, rfl⟩
      have := hd.reports
      simp only [kindOk, decide_eq_true_eq]; omega
    · refine ⟨_, hb k hk, ?_, rfl⟩
      have := hd.controls
      simp only [kindOk, decide_eq_true_eq]; omega
  refine ⟨sc0, h0, ⟨?fwd, ?bwd, ?nloc, ?flag⟩, declareAll_namesNodup hd.nodup hfresh h0, ?defOk⟩
  case fwd =>
    intro x k τ hx
    rw [initEnv, lookup_append] at hx
    split at hx
    · rename_i kt hl
      cases hx
      obtain ⟨d, hd', rfl, e⟩ := lookup_declEnv_some hl
      cases e
      obtain ⟨r, h1, h2, h3⟩ := hslot d hd'
      exact ⟨r, h1, h2, by rw [h3]; exact (declTy_match (hok d hd').1).1⟩
    · obtain ⟨r, h1, h2, h3⟩ := builtinEnv_get uid hx
      exact ⟨r, hkeep x r h1, h2, h3⟩
  case bwd =>
    intro x hx
    rw [initEnv, lookup_append] at hx
    split at hx
    · cases hx
    · rename_i hl
      refine Option.eq_none_iff_forall_ne_some.mpr fun r hg => ?_
      rcases honly x r hg with hb' | ⟨d, hd', e⟩
      · have := (builtin_get_known hb').1
        rw [hx] at this; cases this
      · exact lookup_declEnv_none hl d hd' e
  case nloc => rw [hnl, numLocals_initEnv]
  case flag =>
    rw [initEnv, lookup_append]
    split
    · rfl
    · exact (builtin_get_known (Scope.new_get_of_mem 0 flag_mem_builtinTable)).1
  case defOk =>
    intro x r hg
    rcases honly x r hg with hb' | ⟨d, hd', rfl⟩
    · exact (builtin_get_known hb').2.2
    · obtain ⟨r', h1, h2, h3⟩ := hslot d hd'
      cases h1.symm.trans hg
      exact ⟨kindOk_regOk h2, by rw [h3]; exact (declTy_match (hok d hd').1).2⟩

theorem defInstrs_ok {l : List (Name × Reg)} (h : ∀ p ∈ l, DefOk p.2) :
    ∀ i ∈ defInstrs l, instrOk i = true := by
  intro i hi
  obtain ⟨x, reg, hm, -, hd⟩ := defInstrs_shape hi
  have hp : DefOk reg := h _ hm
  simp only [instrOk, Bool.and_eq_true]
  rcases hd with ⟨n, ht, rfl⟩ | ⟨b, -, rfl⟩
  · exact ⟨⟨⟨rfl, hp.1⟩, hp.1⟩, regOk_immNum (by have := hp.2; rwa [ht] at this)⟩
  · exact ⟨⟨⟨rfl, hp.1⟩, hp.1⟩, rfl⟩

theorem Start.defs {Γ : Env} {sc : Scope} (hs : Start Γ sc) : ∀ i ∈ defInstrs sc.named, instrOk i = true :=
  defInstrs_ok fun p hp => hs.defOk p.1 p.2 (hs.nodup.get_of_mem hp)

def UpdOk (Γ : Env) (upd : List (Name × Nat)) : Prop :=
  ∀ p ∈ upd, litOk p.2 = true ∧
    ∀ k τ, lookup p.1 Γ = some (k, τ) → k = Kind.prim ∨ k = Kind.impl ∨ τ = Ty.num

theorem UpdOk.of_check {ds : List Decl} {upd : List (Name × Nat)} (h : updOk ds upd = true) :
    UpdOk (initEnv ds) upd := by
  simp only [updOk, List.all_eq_true, Bool.and_eq_true] at h
  intro p hp
  refine ⟨(h p hp).1, ?_⟩
  intro k τ hl
  have := (h p hp).2
  rw [hl] at this
  simp only [Bool.or_eq_true, decide_eq_true_eq] at this
  exact or_assoc.mp this

theorem override_ok {k : Kind} {τ : Ty} {r : Reg} (v : Nat) (hk : kindOk k r = true)
    (ht : tyMatch τ r.getType = true) (h : k = Kind.prim ∨ k = Kind.impl ∨ τ = Ty.num) :
    kindOk k (r.override v) = true ∧ tyMatch τ (r.override v).getType = true := by
  cases k <;> cases r <;> simp only [kindOk, Bool.false_eq_true] at hk <;>
    simp only [Reg.override, kindOk, Reg.getType] at ht ⊢
  · exact ⟨hk, ht⟩
  · exact ⟨hk, ht⟩
  all_goals
    rcases h with h | h | h
    · cases h
    · cases h
    · subst h; exact ⟨hk, rfl⟩

theorem override_defOk {r : Reg} {v : Nat} (h : DefOk r) (hv : litOk v = true) : DefOk (r.override v) := by
  obtain ⟨h1, h2⟩ := h
  cases r <;> simp only [Reg.override] <;> first | exact ⟨h1, h2⟩ | exact ⟨h1, hv⟩

theorem applyUpdates_get_some {sc : Scope} {upd : List (Name × Nat)} {n : Name} {r : Reg}
    (h : sc.get n = some r) :
    (applyUpdates sc upd).get n = some r ∨ ∃ v, (n, v) ∈ upd ∧ (applyUpdates sc upd).get n = some (r.override v) := by
  rw [applyUpdates_get, h]
  unfold overrideSpec
  cases hl : lastVal n upd with
  | none => exact Or.inl rfl
  | some v => exact Or.inr ⟨v, lastVal_some_mem hl, rfl⟩

theorem Start.applyUpdates {Γ : Env} {sc : Scope} {upd : List (Name × Nat)} (hs : Start Γ sc)
    (hu : UpdOk Γ upd) : Start Γ (applyUpdates sc upd) := by
  refine ⟨⟨?_, ?_, ?_, hs.inv.flag⟩, (applyUpdates_reach sc upd).namesNodup hs.nodup, ?_⟩
  · intro x k τ hx
    obtain ⟨r, h1, h2, h3⟩ := hs.inv.fwd x k τ hx
    rcases applyUpdates_get_some (upd := upd) h1 with e | ⟨v, hm, e⟩
    · exact ⟨r, e, h2, h3⟩
    · obtain ⟨o1, o2⟩ := override_ok v h2 h3 ((hu _ hm).2 k τ hx)
      exact ⟨_, e, o1, o2⟩
  · intro x hx
    exact (C13.overrides_cases sc upd x).2.1 (hs.inv.bwd x hx)
  · rw [(applyUpdates_counters sc upd).2.2.2.1]
    exact hs.inv.nloc
  · exact Lang.applyUpdates_all (fun _ _ _ hm hr => override_defOk hr (hu _ hm).1) hs.defOk

theorem accepted_of_start {Γ : Env} {sc : Scope} {evs : List Event} (hs : Start Γ sc)
    (hc : (checkEventsV Γ evs).isSome = true) (hl : Frag.LitsOk evs = true) :
    ∃ bin sc' img, compileProg evs sc = .ok (bin, sc') ∧ bin.serialize = .ok img := by
  obtain ⟨Γ', hc⟩ := Option.isSome_iff_exists.mp hc
  obtain ⟨cp, e, _, hin⟩ := compile_eventsV evs Γ sc (defInstrs sc.named).length hs.inv hc hl
  obtain ⟨b, eb⟩ := instrs_ser (forall_append hs.defs hin)
  refine ⟨{ events := cp.events, instrs := defInstrs sc.named ++ cp.instrs }, cp.sc,
    cp.events.flatMap EvRec.serialize ++ b, ?_, ?_⟩
  · simp only [compileProg, e, Out.bind_ok, Out.pure_eq]
  · simp only [Bin.serialize, eb, Out.bind_ok, Out.pure_eq]

theorem compile_eq {uid : Nat} {src : List Char} {ds : List Decl} {evs : List Event} {sc0 : Scope}
    (upd : List (Name × Nat)) (hp : parseSource src = some (ds, evs))
    (h0 : declareAll (Scope.new uid) ds = .ok sc0) :
    compile uid src upd = compileProg evs (applyUpdates sc0 upd) := by
  unfold compile newWithScope
  rw [hp]
  simp only [h0, Out.bind_ok, Out.pure_eq]

/-- C20, acceptance, with compile-time overrides -/
theorem well_typed_accepted_upd (uid : Nat) (src : List Char) (ds : List Decl) (evs : List Event)
    (upd : List (Name × Nat))
    (hp : parseSource src = some (ds, evs)) (hwt : WellTyped ds evs = true) (hu : updOk ds upd = true) :
    ∃ bin sc img, compile uid src upd = .ok (bin, sc) ∧ bin.serialize = .ok img := by
  simp only [WellTyped, Bool.and_eq_true] at hwt
  obtain ⟨⟨hd, hl⟩, hc⟩ := hwt
  obtain ⟨sc0, h0, hs⟩ := declare_start uid (.of_check hd)
  rw [compile_eq upd hp h0]
  exact accepted_of_start (hs.applyUpdates (.of_check hu)) hc hl

/-- **C20, acceptance.** Every program of the grammar that is well typed and within the register
limits is accepted by the compiler, and its image by the serializer. -/
theorem well_typed_accepted (uid : Nat) (src : List Char) (ds : List Decl) (evs : List Event)
    (hp : parseSource src = some (ds, evs)) (hwt : WellTyped ds evs = true) :
    ∃ bin sc img, compile uid src [] = .ok (bin, sc) ∧ bin.serialize = .ok img :=
  well_typed_accepted_upd uid src ds evs [] hp hwt rfl

/-- the same for the entry point `compile_and_serialize` -/
theorem well_typed_image (uid : Nat) (src : List Char) (ds : List Decl) (evs : List Event)
    (upd : List (Name × Nat))
    (hp : parseSource src = some (ds, evs)) (hwt : WellTyped ds evs = true) (hu : updOk ds upd = true) :
    ∃ img sc, compileAndSerialize uid src upd = .ok (img, sc) := by
  obtain ⟨bin, sc, img, h1, h2⟩ := well_typed_accepted_upd uid src ds evs upd hp hwt hu
  exact ⟨img, sc, by simp only [compileAndSerialize, h1, h2, Out.bind_ok, Out.pure_eq]⟩

/-- in `WellTypedStratified` the `Stratified` conjunct excludes nothing: it follows from the typing conjunct -/
theorem wellTypedStratified_eq (ds : List Decl) (evs : List Event) :
    WellTypedStratified ds evs =
      (declsOk ds && Frag.LitsOk evs && (checkEvents (initEnv ds) evs).isSome) := by
  unfold WellTypedStratified
  rw [checkEvents_eq]
  cases Frag.Stratified evs <;> simp

/-- **`WellTypedStratified` is `WellTyped` restricted to stratified programs** (no assignment inside an
expression) -/
theorem wellTyped_eq (ds : List Decl) (evs : List Event) :
    WellTypedStratified ds evs = (WellTyped ds evs && Frag.Stratified evs) := by
  unfold WellTypedStratified WellTyped
  rw [checkEvents_eq]
  cases Frag.Stratified evs <;> simp

theorem wellTyped_mono (ds : List Decl) (evs : List Event) (h : WellTypedStratified ds evs = true) :
    WellTyped ds evs = true := by
  rw [wellTyped_eq, Bool.and_eq_true] at h
  exact h.1

/-- the check applied to source text: `none` = does not parse -/
def wtSrc (src : List Char) : Option Bool := (parseSource src).map fun p => WellTyped p.1 p.2

theorem wtSrc_accepted (uid : Nat) (src : List Char) (h : wtSrc src = some true) :
    ∃ bin sc img, compile uid src [] = .ok (bin, sc) ∧ bin.serialize = .ok img := by
  obtain ⟨p, hp, h⟩ := Option.map_eq_some_iff.mp h
  exact well_typed_accepted uid src p.1 p.2 hp h

/-- three events, a comment, a volatile Report variable, Bool and Num variables (Report and control), `ewma`, `if`,
`!if`, two locals (one Num, one Bool) used in later events, assignments to `Cwnd`, `Rate`, `Micros`, `(report)`,
`(fallthrough)`, all three operator families. (The kernel is given the text as a character list, `decide_text`:
decoding the 382-character literal with `String.toList` would cost six times what parsing and checking it cost.) -/
def richSrc : List Char :=
  ("(def (Report (volatile acked 0) (loss false)) (cap 9) (tmo false))" ++
   "(when true # c\n (:= Report.acked (ewma 2 Ack.bytes_acked)) (:= s (+ cap 1)) (:= big (> Cwnd s))" ++
   " (:= cap (if big Cwnd)) (:= Report.loss (!if tmo big)) (fallthrough))" ++
   "(when (&& big (< s Micros)) (:= Cwnd (min Cwnd cap)) (:= Micros 0) (report))" ++
   "(when (|| tmo Flow.was_timeout) (:= tmo true) (:= Rate (/ Rate 2)) (report))").toList

-- in the style of the portus examples
#guard wtSrc
  ("(def (Report (volatile acked 0) (rtt 0) (loss false)) (cwndcap 100) (inTimeout false) (alpha 2))
    (when true
      # a comment
      (:= Report.acked (+ Report.acked Ack.bytes_acked))
      (:= Report.rtt (ewma alpha Flow.rtt_sample_us))
      (:= s (max Report.rtt 1))
      (:= big (> Cwnd cwndcap))
      (:= cwndcap (if big Cwnd))
      (:= Report.loss (!if (|| Flow.was_timeout inTimeout) false))
      (fallthrough))
    (when (&& (> Micros s) (== Ack.lost_pkts_sample 0))
      (:= Cwnd (min (+ Cwnd Report.acked) cwndcap))
      (:= Micros 0)
      (report))
    (when (|| Flow.was_timeout (> Ack.lost_pkts_sample 0))
      (:= inTimeout true)
      (:= Rate (/ Rate 2))
      (report))").toList == some true
#guard ((parseSource richSrc).map fun p => updOk p.1 [("cap".toList, 200), ("nosuch".toList, 1)]) == some true
#guard ((parseSource richSrc).map fun p => updOk p.1 [("Report.loss".toList, 1)]) == some false
#guard ((parseSource richSrc).map fun p => updOk p.1 [("cap".toList, 2147483648)]) == some false

def wtSrcStratified (src : List Char) : Option Bool :=
  (parseSource src).map fun p => WellTypedStratified p.1 p.2

/-- the fragment of the semantic theorem C01 (hazard-free nestings) -/
def inOracleSrc (src : List Char) : Option Bool := (parseSource src).map fun p => Frag.InOracle p.2

/-- a plain assignment used as a value inside an expression (to a declared variable) -/
def nestedSrc : List Char :=
  ("(def (Report (out 0) (saved 0)))" ++
   "(when true (:= Report.out (+ (* Ack.bytes_acked 2) (+ (:= Report.saved Ack.packets_acked) 1))))").toList

/-- a nested assignment that creates a local (`x : Num`, read by the next statement and by the condition of the
next event) -/
def nestedLocalSrc : List Char :=
  ("(def (Report (out 0)))" ++
   "(when true (:= Report.out (+ (:= x 1) 2)) (:= Report.out (+ x 1)))" ++
   "(when (> x 0) (report))").toList

/-- hazardous nestings are accepted (`WellTyped` has no hazard condition): both operands of `+` assign the variable
the statement assigns; first a declared variable, then a local that the *inner* assignment creates and the outer
one re-types -/
def hazardSrc : List Char :=
  ("(def (Report (x 0)))" ++
   "(when true (:= Report.x (+ (:= Report.x 1) (:= Report.x 2))) (:= y (+ (:= y 1) (:= y 2))))").toList

/-- a guarded assignment used as a value: `(:= Report.b (if c 5))` as an operand of `+`; then an `ewma` and a `!if`
assignment as the two operands of one operator (the second reads what the first assigned), the latter into a
control variable -/
def guardedValueSrc : List Char :=
  ("(def (Report (a 0) (b 0)) (c 1))" ++
   "(when true (:= Report.a (+ 1 (:= Report.b (if (> Ack.bytes_acked 0) 5))))" ++
   " (:= Report.a (+ (:= Report.b (ewma 2 Ack.bytes_acked)) (:= c (!if (> Report.b 3) Cwnd)))))").toList

/-- guarded assignments nest: one inside the condition operand of another, one as the value operand
of another -/
def guardedNestSrc : List Char :=
  ("(def (Report (a 0) (b 0)))" ++
   "(when true (:= Report.a (if (> (:= Report.b (ewma 2 Ack.bytes_acked)) 0) (:= Report.b (!if false 1)))))").toList

/-- an assignment inside a `when` condition, to a declared Bool variable; the top node of the condition is an
operator -/
def condBindSrc : List Char :=
  ("(def (Report (a 0)) (flagvar false))" ++
   "(when (&& (:= flagvar (> Ack.bytes_acked 0)) true) (:= Report.a 1) (report))").toList

/-- a condition that creates a local (`x`), read by the body of the same event and by the condition of the next
one; and a guarded assignment inside a condition -/
def condLocalSrc : List Char :=
  ("(def (Report (a 0) (f false)))" ++
   "(when (> (:= x 1) 0) (:= Report.a x) (report))" ++
   "(when (|| (:= Report.f (if (< x 5) true)) false) (report))").toList

/-! One kernel evaluation for all the programs above: the model's tables hold the built-in names and the operator
spellings as `"…".toList`; converting those costs the kernel more than parsing and checking a program does, and
within one evaluation each literal is converted once. -/

theorem programs_wellTyped :
    wtSrc C13.exSrc = some true ∧
    wtSrc richSrc = some true ∧
    (wtSrc nestedSrc = some true ∧ wtSrcStratified nestedSrc = some false) ∧
    wtSrc nestedLocalSrc = some true ∧
    (wtSrc hazardSrc = some true ∧ inOracleSrc hazardSrc = some false) ∧
    -- inside the fragment of the semantic theorem: no operator in it reads, as its left operand, a variable its
    -- right operand assigns
    (wtSrc guardedValueSrc = some true ∧ wtSrcStratified guardedValueSrc = some false ∧
      inOracleSrc guardedValueSrc = some true) ∧
    wtSrc guardedNestSrc = some true ∧
    (wtSrc condBindSrc = some true ∧ wtSrcStratified condBindSrc = some false) ∧
    wtSrc condLocalSrc = some true := by
  decide_text [C13.exSrc, richSrc, nestedSrc, nestedLocalSrc, hazardSrc, guardedValueSrc, guardedNestSrc,
    condBindSrc, condLocalSrc]

/-- … hence accepted, by the theorem (not by running the compiler) -/
theorem exSrc_accepted : ∃ bin sc img, compile 3 C13.exSrc [] = .ok (bin, sc) ∧ bin.serialize = .ok img :=
  wtSrc_accepted 3 _ programs_wellTyped.1

theorem richSrc_accepted : ∃ bin sc img, compile 0 richSrc [] = .ok (bin, sc) ∧ bin.serialize = .ok img :=
  wtSrc_accepted 0 _ programs_wellTyped.2.1

theorem nestedSrc_accepted : ∃ bin sc img, compile 0 nestedSrc [] = .ok (bin, sc) ∧ bin.serialize = .ok img :=
  wtSrc_accepted 0 _ programs_wellTyped.2.2.1.1

theorem nestedLocalSrc_accepted :
    ∃ bin sc img, compile 0 nestedLocalSrc [] = .ok (bin, sc) ∧ bin.serialize = .ok img :=
  wtSrc_accepted 0 _ programs_wellTyped.2.2.2.1

theorem hazardSrc_accepted : ∃ bin sc img, compile 0 hazardSrc [] = .ok (bin, sc) ∧ bin.serialize = .ok img :=
  wtSrc_accepted 0 _ programs_wellTyped.2.2.2.2.1.1

theorem guardedValueSrc_accepted :
    ∃ bin sc img, compile 0 guardedValueSrc [] = .ok (bin, sc) ∧ bin.serialize = .ok img :=
  wtSrc_accepted 0 _ programs_wellTyped.2.2.2.2.2.1.1

theorem guardedNestSrc_accepted :
    ∃ bin sc img, compile 0 guardedNestSrc [] = .ok (bin, sc) ∧ bin.serialize = .ok img :=
  wtSrc_accepted 0 _ programs_wellTyped.2.2.2.2.2.2.1

theorem condBindSrc_accepted :
    ∃ bin sc img, compile 0 condBindSrc [] = .ok (bin, sc) ∧ bin.serialize = .ok img :=
  wtSrc_accepted 0 _ programs_wellTyped.2.2.2.2.2.2.2.1.1

theorem condLocalSrc_accepted :
    ∃ bin sc img, compile 0 condLocalSrc [] = .ok (bin, sc) ∧ bin.serialize = .ok img :=
  wtSrc_accepted 0 _ programs_wellTyped.2.2.2.2.2.2.2.2

#guard wtSrc "(def (Report (b 0))) (when true (:= a (:= b2 1)) (:= Report.b (+ a b2)))".toList == some true
#guard wtSrc "(def (Report (b 0))) (when true (:= Report.b (if (> (:= x 1) 0) x)))".toList == some true
#guard wtSrc "(def (Report (b 0))) (when true (:= Report.b (ewma (:= x 1) (:= y (+ x 2)))))".toList == some true
#guard wtSrc "(def (Report (b 0))) (when true (:= c (+ (:= Cwnd 5) 1)))".toList == some true
#guard wtSrc "(def (Report (b 0))) (when true (:= x (+ (:= x 1) x)))".toList == some true
-- six locals are fine, the seventh is not, wherever it is created
#guard wtSrc ("(def (Report (b 0))) (when true " ++
  "(:= a (+ (:= l1 1) (+ (:= l2 1) (+ (:= l3 1) (+ (:= l4 1) (:= l5 1)))))))").toList == some true
#guard wtSrc ("(def (Report (b 0))) (when true " ++
  "(:= a (+ (:= l1 1) (+ (:= l2 1) (+ (:= l3 1) (+ (:= l4 1) (+ (:= l5 1) (:= l6 1))))))))").toList == some false
-- literals inside nested assignments are checked; primitives stay read-only; a name must be
-- assigned before it is read, also inside one expression (operands left to right)
#guard wtSrc "(def (Report (b 0))) (when true (:= Report.b (+ (:= x 2147483648) 0)))".toList == some false
#guard wtSrc "(def (Report (b 0))) (when true (:= c (+ (:= Ack.now 5) 1)))".toList == some false
#guard wtSrc "(def (Report (b 0))) (when true (:= x (+ x (:= x 1))))".toList == some false

#guard wtSrc "(def (Report (a 0) (b 0))) (when true (:= Report.a (:= Report.b (if true 1))))".toList == some true
#guard wtSrc "(def (Report (a 0) (b 0))) (when true (:= Report.a (- (:= Report.b (if true (:= y 1))) y)))".toList == some true
#guard wtSrc "(def (Report (a 0) (b true))) (when true (:= Report.a (if (:= Report.b (if true 1)) 1)))".toList == some true
#guard wtSrc "(def (Report (a 0) (b true))) (when true (:= Report.a (if (:= Report.b (ewma 1 1)) 1)))".toList == some true
#guard wtSrc "(def (Report (a 0) (b true))) (when true (:= Report.a (+ (:= Report.b (ewma 1 1)) 1)))".toList == some false
#guard wtSrc "(def (Report (a 0))) (when (> (:= x (:= y 1)) 0) (:= Report.a (+ x y)))".toList == some true
#guard wtSrc "(def (Report (a 0))) (when (== (:= Report.a (ewma 2 Ack.now)) 0) (report))".toList == some true
-- the eight temporaries of a condition, nested assignments included; the six locals, wherever created
#guard wtSrc ("(def (Report (a 0))) (when (> (:= x " ++
      "(+ 1 (+ 1 (+ 1 (+ 1 (+ 1 (+ 1 (+ 1 1)))))))) 0) (report))").toList == some true
#guard wtSrc ("(def (Report (a 0))) (when (> (:= x " ++
      "(+ 1 (+ 1 (+ 1 (+ 1 (+ 1 (+ 1 (+ 1 (+ 1 1))))))))) 0) (report))").toList == some false
#guard wtSrc ("(def (Report (b 0))) (when (> (+ (:= l1 1) (+ (:= l2 1) (+ (:= l3 1) (:= l4 1)))) 0) " ++
  "(:= l5 1) (:= l6 1))").toList == some true
#guard wtSrc ("(def (Report (b 0))) (when (> (+ (:= l1 1) (+ (:= l2 1) (+ (:= l3 1) (:= l4 1)))) 0) " ++
  "(:= l5 1) (:= l6 1) (:= l7 1))").toList == some false
-- literals inside conditions and guarded operands are checked
#guard wtSrc "(def (Report (a 0))) (when (> (:= x 2147483648) 0) (report))".toList == some false
#guard wtSrc "(def (Report (a 0) (b 0))) (when true (:= Report.a (+ 1 (:= Report.b (if true 2147483648)))))".toList == some false

/-- the three verdicts below as one evaluation (see `programs_wellTyped` for why); each is stated again under
its name -/
theorem ill_verdicts :
    (wtSrc "(def (Report (acked 0))) (when true (:= Report.acked (+ true 1)))".toList = some false) ∧
    (wtSrc ("(def (Report (a 0) (b 0) (c 0) (d 0) (e 0) (f0 0) (g 0) (h 0) (i 0) (j 0) (k 0) (l 0) (m 0) (n 0)" ++
      " (o 0) (p 0) (q 0))) (when true (report))").toList = some false) ∧
    (wtSrc ("(def (Report (a 0))) (when true (:= Report.a " ++
      "(+ 1 (+ 1 (+ 1 (+ 1 (+ 1 (+ 1 (+ 1 (+ 1 (+ 1 1)))))))))))").toList = some false) := by
  decide_text

/-- a Bool operand of `+` -/
theorem ill_operand :
    wtSrc "(def (Report (acked 0))) (when true (:= Report.acked (+ true 1)))".toList = some false :=
  ill_verdicts.1

/-- a 17th Report variable -/
theorem ill_17_reports :
    wtSrc ("(def (Report (a 0) (b 0) (c 0) (d 0) (e 0) (f0 0) (g 0) (h 0) (i 0) (j 0) (k 0) (l 0) (m 0) (n 0)" ++
      " (o 0) (p 0) (q 0))) (when true (report))").toList = some false :=
  ill_verdicts.2.1

/-- nine operator nodes in one statement (eight are fine: tests below) -/
theorem ill_9_operators :
    wtSrc ("(def (Report (a 0))) (when true (:= Report.a " ++
      "(+ 1 (+ 1 (+ 1 (+ 1 (+ 1 (+ 1 (+ 1 (+ 1 (+ 1 1)))))))))))").toList = some false :=
  ill_verdicts.2.2

#guard wtSrc ("(def (Report (a 0))) (when true (:= Report.a " ++
      "(+ 1 (+ 1 (+ 1 (+ 1 (+ 1 (+ 1 (+ 1 (+ 1 1))))))))))").toList == some true
#guard wtSrc "(def (Report (a 0))) (when true (:= a 1) (:= b 1) (:= c 1) (:= d 1) (:= e 1) (:= f0 1))".toList == some true
#guard wtSrc "(def (Report (a 0))) (when true (:= a 1) (:= b 1) (:= c 1) (:= d 1) (:= e 1) (:= f0 1) (:= g 1))".toList == some false
#guard wtSrc "(def (Report (a 0))) (when true (:= Report.a 2147483648))".toList == some false
#guard wtSrc "(def (Report (a 0))) (when true (:= Report.a +infinity))".toList == some true
#guard wtSrc "(def (Report (a 0))) (when true (:= Report.a zz))".toList == some false
#guard wtSrc "(def (Report (a 0)) (Cwnd 1)) (when true (report))".toList == some false
#guard wtSrc "(def (Report (a 0)) (b 1) (b 2)) (when true (report))".toList == some false

/-! ## Findings: programs that are well typed by a natural reading of the grammar and are rejected

Each restriction is a named rule of `Typing.lean`; each example is the model compiler's verdict. -/

def rejected (src : String) : Bool := compile 7 src.toList [] == .err

/-- compiled and serialized (tests only: acceptance is claimed through the theorem) -/
def accepted (src : String) : Bool :=
  match compileAndSerialize 7 src.toList [] with
  | .ok _ => true
  | _ => false

/-- the verdicts of this section as one evaluation; each group is stated again below, with the rule it shows -/
theorem finding_verdicts :
    (rejected "(def (Report (acked 0)) (flag true)) (when flag (report))" = true ∧
    rejected "(def (Report (acked 0))) (when Flow.was_timeout (report))" = true) ∧
    (rejected "(def (Report (acked 0))) (when true (:= Cwnd (if true 1)))" = true ∧
    rejected "(def (Report (acked 0))) (when true (:= Rate (ewma 2 Flow.rate_outgoing)))" = true ∧
    rejected "(def (Report (acked 0))) (when true (:= x 1) (:= x (if true 2)))" = true) ∧
    (rejected "(def (Report (n 0))) (when true (:= b (&& (:= Report.n true) true)))" = true ∧
    wtSrc "(def (Report (n 0))) (when true (:= b (&& (:= Report.n true) true)))".toList = some false ∧
    wtSrc "(def (Report (n 0))) (when true (:= b (+ (:= Report.n true) 1)))".toList = some true) ∧
    (rejected "(def (Report (a 0))) (when true (:= x (> (:= x 1) 0)) (:= y (+ x 1)))" = true ∧
    wtSrc "(def (Report (a 0))) (when true (:= x (> (:= x 1) 0)) (:= y (+ x 1)))".toList = some false ∧
    wtSrc "(def (Report (a 0))) (when true (:= x (> (:= x 1) 0)) (:= y (&& x true)))".toList = some true) ∧
    (rejected "(def (Report (a 0))) (when true (:= Report.a (+ 1 (if true 5))))" = true ∧
    rejected "(def (Report (a 0))) (when true (:= Report.a (+ 1 (:= Cwnd (if true 5)))))" = true ∧
    rejected "(def (Report (a 0))) (when true (:= Report.a (+ 1 (:= x (if true 5)))))" = true ∧
    wtSrc "(def (Report (a 0))) (when true (:= Report.a (+ 1 (if true 5))))".toList = some false ∧
    wtSrc "(def (Report (a 0))) (when true (:= Report.a (+ 1 (:= Cwnd (if true 5)))))".toList = some false ∧
    wtSrc "(def (Report (a 0))) (when true (:= Report.a (+ 1 (:= Report.a (if true 5)))))".toList = some true) ∧
    (rejected "(def (Report (a 0)) (flagvar false)) (when (:= flagvar (> Ack.bytes_acked 0)) (report))" = true ∧
    wtSrc "(def (Report (a 0)) (flagvar false)) (when (:= flagvar (> Ack.bytes_acked 0)) (report))".toList
      = some false ∧
    rejected "(def (Report (a 0))) (when (if true true) (report))" = true ∧
    wtSrc "(def (Report (a 0))) (when (if true true) (report))".toList = some false) ∧
    (rejected "(def (Report (acked 0))) (when true (:= Ack.now 1))" = true) := by
  unfold rejected; decide_text

/-- `noBareBoolCondition`: a `when` whose condition is a Bool *variable* (declared, local or the primitive
`Flow.was_timeout`) is rejected by `compile_flag` (the flag block must end in a temporary or be a literal); the
same condition written as an operator node is accepted -/
theorem finding_bare_bool_condition :
    rejected "(def (Report (acked 0)) (flag true)) (when flag (report))" = true ∧
    rejected "(def (Report (acked 0))) (when Flow.was_timeout (report))" = true :=
  finding_verdicts.1

#guard wtSrc "(def (Report (acked 0)) (flag true)) (when flag (report))".toList == some false
#guard wtSrc "(def (Report (acked 0)) (flag true)) (when (&& flag true) (report))".toList == some true
#guard wtSrc "(def (Report (acked 0))) (when (|| Flow.was_timeout false) (report))".toList == some true

/-- `guardedTargetDeclared`: `if`, `!if` and `ewma` can only be assigned to a declared (Report / control) variable:
the `Op::Bind` arm rejects `Cwnd`, `Rate`, `Micros` and locals (even an existing one) as targets, so
`(:= Rate (ewma 2 Flow.rate_outgoing))` does not compile -/
theorem finding_guarded_target :
    rejected "(def (Report (acked 0))) (when true (:= Cwnd (if true 1)))" = true ∧
    rejected "(def (Report (acked 0))) (when true (:= Rate (ewma 2 Flow.rate_outgoing)))" = true ∧
    rejected "(def (Report (acked 0))) (when true (:= x 1) (:= x (if true 2)))" = true :=
  finding_verdicts.2.1

#guard wtSrc "(def (Report (acked 0))) (when true (:= Rate (ewma 2 Flow.rate_outgoing)))".toList == some false
#guard wtSrc "(def (Report (acked 0))) (when true (:= Report.acked (ewma 2 Flow.rate_outgoing)))".toList == some true

/-- `knownTargetType`: the value of `(:= x e)` inside an expression, `x` already known, has the type recorded for
`x`, not the type of `e` (the value of a bind is the register of the target; the two types are not compared). With
`n : Num`, `(:= Report.n true)` is accepted, `(&& (:= Report.n true) true)` rejected and `(+ (:= Report.n true) 1)`
accepted -/
theorem finding_known_target_type :
    rejected "(def (Report (n 0))) (when true (:= b (&& (:= Report.n true) true)))" = true ∧
    wtSrc "(def (Report (n 0))) (when true (:= b (&& (:= Report.n true) true)))".toList = some false ∧
    wtSrc "(def (Report (n 0))) (when true (:= b (+ (:= Report.n true) 1)))".toList = some true :=
  finding_verdicts.2.2.1

#guard accepted "(def (Report (n 0))) (when true (:= b (+ (:= Report.n true) 1)))"

/-- the rule `setTy` of `bindValue` is forced by the compiler: in `(:= x (> (:= x 1) 0))` the inner assignment
creates the local `x : Num`, the outer one re-types the same local to Bool; afterwards `(+ x 1)` is rejected and
`(&& x true)` accepted -/
theorem nested_retyping :
    rejected "(def (Report (a 0))) (when true (:= x (> (:= x 1) 0)) (:= y (+ x 1)))" = true ∧
    wtSrc "(def (Report (a 0))) (when true (:= x (> (:= x 1) 0)) (:= y (+ x 1)))".toList = some false ∧
    wtSrc "(def (Report (a 0))) (when true (:= x (> (:= x 1) 0)) (:= y (&& x true)))".toList = some true :=
  finding_verdicts.2.2.2.1

#guard accepted "(def (Report (a 0))) (when true (:= x (> (:= x 1) 0)) (:= y (&& x true)))"

/-- the placeholder of a guarded form has one consumer: `(if c v)`, `(!if c v)`, `(ewma a v)` yield `Reg::None`, which
only the `Op::Bind` arm with a Report / control register on its left accepts (`bindGuarded`). A bare guarded form
as an operand, or a guarded assignment to `Cwnd` / a local used as a value, is rejected; the guarded assignment to
a declared variable is a value -/
theorem finding_placeholder_operand :
    rejected "(def (Report (a 0))) (when true (:= Report.a (+ 1 (if true 5))))" = true ∧
    rejected "(def (Report (a 0))) (when true (:= Report.a (+ 1 (:= Cwnd (if true 5)))))" = true ∧
    rejected "(def (Report (a 0))) (when true (:= Report.a (+ 1 (:= x (if true 5)))))" = true ∧
    wtSrc "(def (Report (a 0))) (when true (:= Report.a (+ 1 (if true 5))))".toList = some false ∧
    wtSrc "(def (Report (a 0))) (when true (:= Report.a (+ 1 (:= Cwnd (if true 5)))))".toList = some false ∧
    wtSrc "(def (Report (a 0))) (when true (:= Report.a (+ 1 (:= Report.a (if true 5)))))".toList = some true :=
  finding_verdicts.2.2.2.2.1

#guard wtSrc "(def (Report (a 0))) (when true (:= Report.a (+ 1 (:= x (if true 5)))))".toList == some false
#guard accepted "(def (Report (a 0))) (when true (:= Report.a (+ 1 (:= Report.a (if true 5)))))"

/-- `noBindCondition`: a `when` condition whose *top node* is an assignment is rejected by `compile_flag`: the value
of the flag block is then the register of the target, not a temporary whose last instruction could be redirected
to `__eventFlag`. The same assignment below the top operator is accepted (`condBindSrc`), so is one wrapped as
`(&& … true)`; a guarded form at the top is no value at all -/
theorem finding_bind_condition :
    rejected "(def (Report (a 0)) (flagvar false)) (when (:= flagvar (> Ack.bytes_acked 0)) (report))" = true ∧
    wtSrc "(def (Report (a 0)) (flagvar false)) (when (:= flagvar (> Ack.bytes_acked 0)) (report))".toList
      = some false ∧
    rejected "(def (Report (a 0))) (when (if true true) (report))" = true ∧
    wtSrc "(def (Report (a 0))) (when (if true true) (report))".toList = some false :=
  finding_verdicts.2.2.2.2.2.1

#guard accepted "(def (Report (a 0)) (flagvar false)) (when (&& (:= flagvar (> Ack.bytes_acked 0)) true) (report))"
#guard wtSrc "(def (Report (a 0)) (flagvar false)) (when (&& (:= flagvar (> Ack.bytes_acked 0)) true) (report))".toList == some true

#guard wtSrc "(def (Report (b 0))) (when true (:= Report.b (+ (:= Report.b (if true 1)) 1)))".toList == some true
#guard accepted "(def (Report (b 0))) (when true (:= Report.b (+ (:= Report.b (if true 1)) 1)))"
#guard wtSrc "(def (Report (b 0))) (when (> (:= x 1) 0) (report))".toList == some true
#guard accepted "(def (Report (b 0))) (when (> (:= x 1) 0) (report))"

/- restrictions of the check, not of the compiler (the check is sufficient, not necessary): the compiler also
accepts the copy of a never-assigned name (both locals stay untyped until something assigns them), and it does not
look at the operand types of `if` / `!if` / `ewma` (`guardOk`) -/
#guard wtSrc "(def (Report (b 0))) (when true (:= x (:= y x)))".toList == some false
#guard accepted "(def (Report (b 0))) (when true (:= x (:= y x)))"
#guard wtSrc "(def (Report (a 0))) (when true (:= Report.a (if 1 1)))".toList == some false
#guard accepted "(def (Report (a 0))) (when true (:= Report.a (if 1 1)))"

/-- `notReadOnly` (expected) -/
theorem primitives_read_only : rejected "(def (Report (acked 0))) (when true (:= Ack.now 1))" = true :=
  finding_verdicts.2.2.2.2.2.2

/- the compiler does not compare the type of an assigned variable with the type of the value, and the check mirrors
that -/
#guard wtSrc "(def (Report (acked 0))) (when true (:= Report.acked true))".toList == some true
#guard !rejected "(def (Report (acked 0))) (when true (:= Report.acked true))"

end Portus.Lang.Typing
