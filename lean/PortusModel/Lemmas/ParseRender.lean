import PortusModel.Lang.Render
import PortusModel.Lemmas.Parser
/-!
# Every rendering parses back to its syntax tree (C20, second part)

For each parser of `Lang/Parse.lean` there are *introduction rules* (`expr_sexp_intro`, `event_intro`, `decl_intro_plain`,
…): the parser's `do`-block evaluated once, given what its sub-parsers return on the successive remainders, with every
`multispace0` written as `skipSpace`; under each stands the *failure rule* for a sub-parser that fails mid-way
(`expr_sexp_none`, `event_none_of_body`, …). For each rendering relation `R…` of `Lang/Render.lean` a lemma `r…_parses` then
walks one rendering in parser order and feeds the rule; lists go through `Many` (`Lemmas/Parser.lean`). What makes a
layout unambiguous is said by two predicates on the text that follows a token: `noSpaceHead` (it starts with a
non-blank, so `skipSpace` stops there) and `NoNameHead` (it cannot continue a name or number).
-/
namespace Portus.Lang

theorem Ws.nil : Ws [] := rfl

theorem Ws.cons {c : Char} {w : List Char} (hc : isSpace c = true) (hw : Ws w) : Ws (c :: w) := by
  simp only [Ws, List.all_cons, hc, Bool.true_and]; exact hw

theorem Ws.head {c : Char} {w : List Char} (h : Ws (c :: w)) : isSpace c = true := by
  simp only [Ws, List.all_cons, Bool.and_eq_true] at h; exact h.1

theorem Ws.tail {c : Char} {w : List Char} (h : Ws (c :: w)) : Ws w := by
  simp only [Ws, List.all_cons, Bool.and_eq_true] at h; exact h.2

theorem sp_space : isSpace ' ' = true := by decide

theorem ws_sp : Ws [' '] := by decide

theorem skipSpace_ws {w : List Char} (hw : Ws w) (r : List Char) : skipSpace (w ++ r) = skipSpace r := by
  induction w with
  | nil => rfl
  | cons c w ih => simp only [List.cons_append, skipSpace, hw.head, if_true]; exact ih hw.tail

/-- a function blind to leading blanks ignores a `Ws` prefix -/
theorem ws_append_of_skipSpace {β : Type} {p : List Char → β} (hp : ∀ x, p (skipSpace x) = p x) {w : List Char}
    (hw : Ws w) (x : List Char) : p (w ++ x) = p x := by
  rw [← hp, skipSpace_ws hw, hp]

/-- reading an item that starts, after whitespace, with a non-blank character consumes input (the progress condition
of `many0` / `many1`) -/
theorem skipSpace_length_lt_of_token {w z : List Char} {c : Char} (hw : Ws w) (hc : isSpace c = false)
    (x : List Char) : (skipSpace x).length < (skipSpace ((w ++ c :: z) ++ x)).length := by
  rw [List.append_assoc, List.cons_append, skipSpace_ws hw, skipSpace_cons_of_not_space hc]
  exact skipSpace_append_length_lt (List.cons_ne_nil c z) x

theorem skipSpace_ws_cons {w : List Char} (hw : Ws w) {c : Char} (h : isSpace c = false) (cs : List Char) :
    skipSpace (w ++ c :: cs) = c :: cs := by
  rw [skipSpace_ws hw, skipSpace_cons_of_not_space h]

theorem noNameHead_cons {c : Char} (h : isNameChar c = false) (cs : List Char) : NoNameHead (c :: cs) := by
  simp [NoNameHead, noNameHead, h]

theorem NoNameHead.head {l : List Char} (h : NoNameHead l) : ∀ c, l.head? = some c → isNameChar c = false := by
  intro c hc
  cases l with
  | nil => cases hc
  | cons d ds =>
    simp only [List.head?_cons, Option.some.injEq] at hc; subst hc
    simpa [NoNameHead, noNameHead] using h

theorem noNameHead_ws_append {w x : List Char} (hw : Ws w) (h : w ≠ [] ∨ NoNameHead x) : NoNameHead (w ++ x) := by
  cases w with
  | nil =>
    rcases h with h | h
    · exact absurd rfl h
    · exact h
  | cons c w => exact noNameHead_cons (space_not_nameChar hw.head) _

theorem tag_append_none {s : List Char} (hs : ∀ c ∈ s, isNameChar c = true) {x : List Char}
    (hx : s.isPrefixOf x = false) {rest : List Char} (hr : NoNameHead rest) : tag s (x ++ rest) = none := by
  induction s generalizing x with
  | nil => cases x <;> simp [List.isPrefixOf] at hx
  | cons a s ih =>
    have ha : isNameChar a = true := hs a (by simp)
    cases x with
    | nil =>
      cases rest with
      | nil => exact tag_cons_nil _ _
      | cons c cs =>
        have hc : isNameChar c = false := hr.head c rfl
        exact tag_cons_ne _ _ (ne_of_true_false ha hc).symm
    | cons b x =>
      rw [List.cons_append, tag_cons_cons]
      by_cases e : a = b
      · subst e
        rw [if_pos rfl]
        simp only [List.isPrefixOf, beq_self_eq_true, Bool.true_and] at hx
        exact ih (fun c hc => hs c (by simp [hc])) hx
      · rw [if_neg e]

theorem DocName.spec {x : Name} (h : DocName x) :
    ∃ c cs, x = c :: cs ∧ (∀ d ∈ x, isNameChar d = true) ∧ isAsciiDigit c = false ∧
      "__".toList.isPrefixOf x = false ∧ "true".toList.isPrefixOf x = false ∧
      "false".toList.isPrefixOf x = false := by
  unfold DocName docName at h
  cases x with
  | nil => simp at h
  | cons c cs =>
    simp only [Bool.and_eq_true, Bool.not_eq_true', List.all_eq_true, decide_eq_true_eq] at h
    obtain ⟨⟨⟨⟨⟨_, h1⟩, h2⟩, h3⟩, h4⟩, h5⟩ := h
    exact ⟨c, cs, rfl, fun d hd => (h1 d hd).1, h2, h3, h4, h5⟩

theorem name_docName {x rest : List Char} (hx : DocName x) (hr : NoNameHead rest) :
    name (x ++ rest) = some (x, rest) := by
  obtain ⟨c, cs, rfl, hch, hdig, huu, htrue, hfalse⟩ := hx.spec
  have hall : (c :: cs).all isAsciiDigit = false := by simp [hdig]
  simp only [name, takeWhile1_append isNameChar (c :: cs) rest (by simp) hch hr.head, hall, huu]
  rfl

theorem atom_name {x rest : List Char} (hx : DocName x) (hr : NoNameHead rest) :
    atom (x ++ rest) = some (.atom (.name x), rest) := by
  have hname := name_docName hx hr
  obtain ⟨c, cs, rfl, hch, hdig, huu, htrue, hfalse⟩ := hx.spec
  have hc : isNameChar c = true := hch c (by simp)
  have t1 : tag "true".toList ((c :: cs) ++ rest) = none := tag_append_none (by decide) htrue hr
  have t2 : tag "false".toList ((c :: cs) ++ rest) = none := tag_append_none (by decide) hfalse hr
  have t3 : tag "+infinity".toList (c :: (cs ++ rest)) = none :=
    tag_cons_ne _ _ (ne_of_true_false hc (by decide))
  have hnum : num (c :: (cs ++ rest)) = none := by rw [num_cons, hdig]; rfl
  rw [List.cons_append] at t1 t2 hname ⊢
  rw [atom_cons]
  simp only [t1, t2, t3, hnum, hname]

theorem atom_true (rest : List Char) : atom ("true".toList ++ rest) = some (.atom (.bool true), rest) := by
  simp only [String.reduceToList, List.cons_append, List.nil_append, atom_cons, tag_cons_cons, tag_nil, if_true]

theorem atom_false (rest : List Char) : atom ("false".toList ++ rest) = some (.atom (.bool false), rest) := by
  simp only [String.reduceToList, List.cons_append, List.nil_append, atom_cons, tag_cons_cons, tag_nil,
    Char.reduceEq, if_true, if_false]

theorem ratom_parses {p : Prim} {t : List Char} (h : RAtom p t) {rest : List Char} (hr : NoNameHead rest) :
    atom (t ++ rest) = some (.atom p, rest) := by
  cases h with
  | tt => exact atom_true rest
  | ff => exact atom_false rest
  | name hx => exact atom_name hx hr
  | num hne hd hlt => rw [atom_numeral _ rest hne hd hr.head, if_pos hlt]
  | inf => exact atom_infinity rest

theorem ratom_head {p : Prim} {t : List Char} (h : RAtom p t) :
    ∃ c cs, t = c :: cs ∧ (isNameChar c = true ∨ c = '+') := by
  cases h with
  | tt => exact ⟨'t', ['r', 'u', 'e'], by simp only [String.reduceToList], .inl (by decide)⟩
  | ff => exact ⟨'f', ['a', 'l', 's', 'e'], by simp only [String.reduceToList], .inl (by decide)⟩
  | name hx =>
    obtain ⟨c, cs, rfl, hch, _⟩ := hx.spec
    exact ⟨c, cs, rfl, .inl (hch c (by simp))⟩
  | num hne hd hlt =>
    cases t with
    | nil => exact absurd rfl hne
    | cons d ds => exact ⟨d, ds, rfl, .inl (digit_nameChar (hd d (by simp)))⟩
  | inf => exact ⟨'+', ['i', 'n', 'f', 'i', 'n', 'i', 't', 'y'], by simp only [String.reduceToList], .inr rfl⟩

theorem ratom_zero : RAtom (.num 0) ['0'] := RAtom.num (ds := ['0']) (by decide) (by decide) (by decide)

theorem atom_none_of_head {c : Char} (hn : isNameChar c = false) (hp : c ≠ '+') (r : List Char) :
    atom (c :: r) = none := by
  have hd : isAsciiDigit c = false :=
    Bool.eq_false_iff.mpr fun h => by rw [digit_nameChar h] at hn; cases hn
  have ht : c ≠ 't' := fun e => by subst e; cases hn
  have hf : c ≠ 'f' := fun e => by subst e; cases hn
  have e1 : "true".toList = 't' :: "rue".toList := rfl
  have e2 : "false".toList = 'f' :: "alse".toList := rfl
  have e3 : "+infinity".toList = '+' :: "infinity".toList := rfl
  rw [atom_cons, e1, e2, e3, tag_cons_ne _ _ ht, tag_cons_ne _ _ hf, tag_cons_ne _ _ hp, num_cons, name_cons, hd, hn]
  rfl

theorem atom_rparen (r : List Char) : atom (')' :: r) = none := atom_none_of_head (by decide) (by decide) r

theorem atom_lparen (r : List Char) : atom ('(' :: r) = none := atom_none_of_head (by decide) (by decide) r

/-! ## `expr` -/

theorem expr_skipSpace (fuel : Nat) (inp : List Char) : expr fuel (skipSpace inp) = expr fuel inp := by
  cases fuel with
  | zero => rfl
  | succ f => rw [expr]; simp only [skipSpace_idem]

/-- the `alt` of `command` -/
def cmdTable : List (List Char × Command) :=
  [("fallthrough".toList, .fallthrough), ("report".toList, .report)]

theorem expr_sexp_intro {fuel : Nat} {inp r0 r1 r2 r3 r4 : List Char} {o : Op} {l rt e : Expr}
    (h0 : skipSpace inp = '(' :: r0)
    (hop : op (skipSpace r0) = some (o, r1))
    (hl : expr fuel (skipSpace r1) = some (l, r2))
    (hr : expr fuel (skipSpace r2) = some (rt, r3))
    (hc : checkExpr o l rt = some e)
    (h4 : skipSpace r3 = ')' :: r4) :
    expr (fuel + 1) inp = some (e, skipSpace r4) := by
  rw [expr]
  simp only [h0, comment, String.reduceToList, tag_cons_cons, tag_nil, Char.reduceEq, if_true, if_false, ms0,
    Option.bind_eq_bind, Option.bind_some, Option.bind_none, Option.pure_def, hop, hl, hr, hc, h4]

theorem expr_sexp_none {fuel : Nat} {inp r0 r1 r2 : List Char} {o : Op} {l : Expr}
    (h0 : skipSpace inp = '(' :: r0) (hop : op (skipSpace r0) = some (o, r1))
    (hcmd : altTags cmdTable (skipSpace r0) = none)
    (hl : expr fuel (skipSpace r1) = some (l, r2)) (hr : expr fuel (skipSpace r2) = none) :
    expr (fuel + 1) inp = none := by
  rw [expr]
  simp only [cmdTable, String.reduceToList] at hcmd
  simp only [h0, comment, command, String.reduceToList, tag_cons_cons, tag_nil, Char.reduceEq, if_true, if_false, ms0,
    Option.bind_eq_bind, Option.bind_some, Option.bind_none, Option.pure_def, hop, hl, hr, hcmd, atom_lparen]

theorem expr_cmd_intro {fuel : Nat} {inp r0 r1 r2 : List Char} {c : Command}
    (h0 : skipSpace inp = '(' :: r0)
    (hop : op (skipSpace r0) = none)
    (hc : altTags cmdTable (skipSpace r0) = some (c, r1))
    (h2 : skipSpace r1 = ')' :: r2) :
    expr (fuel + 1) inp = some (.cmd c, skipSpace r2) := by
  rw [expr]
  simp only [h0, comment, command, String.reduceToList, tag_cons_cons, tag_nil, Char.reduceEq, if_true, if_false, ms0,
    Option.bind_eq_bind, Option.bind_some, Option.bind_none, Option.pure_def, hop]
  simp only [cmdTable, String.reduceToList] at hc
  simp only [hc, Option.bind_some, h2, tag_cons_cons, tag_nil, if_true]

theorem expr_atom_intro {fuel : Nat} {inp cs r : List Char} {c : Char} {e : Expr}
    (h0 : skipSpace inp = c :: cs) (hc1 : c ≠ '#') (hc2 : c ≠ '(')
    (ha : atom (c :: cs) = some (e, r)) :
    expr (fuel + 1) inp = some (e, skipSpace r) := by
  rw [expr_of_head h0 hc1 hc2, ha]; rfl

theorem expr_comment_intro {fuel : Nat} {inp r0 r1 txt : List Char}
    (h0 : skipSpace inp = '#' :: r0) (h1 : takeUntilNl r0 = some (txt, r1)) :
    expr (fuel + 1) inp = some (.none, skipSpace r1) := by
  rw [expr]
  simp only [h0, comment, String.reduceToList, tag_cons_cons, tag_nil, if_true,
    Option.bind_eq_bind, Option.bind_some, Option.pure_def, h1]

/-- `expr` fails in front of a closing parenthesis: this is what ends a body -/
theorem expr_rparen (fuel : Nat) {inp r : List Char} (h0 : skipSpace inp = ')' :: r) : expr fuel inp = none := by
  cases fuel with
  | zero => rfl
  | succ f => rw [expr_of_head h0 (by decide) (by decide), atom_rparen]; rfl

/-- the text starts with a non-blank character, so `skipSpace` stops there (the partner of `NoNameHead`, `Lang/Render`) -/
def noSpaceHead : List Char → Bool
  | [] => false
  | c :: _ => !isSpace c

theorem skipSpace_ws_noSpaceHead {w t : List Char} (hw : Ws w) (h : noSpaceHead t = true) (x : List Char) :
    skipSpace (w ++ (t ++ x)) = t ++ x := by
  cases t with
  | nil => cases h
  | cons c cs =>
    simp only [noSpaceHead, Bool.not_eq_true'] at h
    exact skipSpace_ws_cons hw h _

theorem rop_noSpaceHead {o : Op} {t : List Char} (h : ROp o t) : noSpaceHead t = true := by
  have : ∀ p ∈ opTable, noSpaceHead p.1 = true := by decide +kernel
  exact this _ h

theorem cmdText_noSpaceHead (c : Command) : noSpaceHead (cmdText c) = true := by cases c <;> decide

theorem op_cmdText (c : Command) (rest : List Char) : op (cmdText c ++ rest) = none :=
  altTags_none opTable (cmdText c) (by cases c <;> decide +kernel) rest

theorem cmd_cmdText (c : Command) (rest : List Char) : altTags cmdTable (cmdText c ++ rest) = some (c, rest) := by
  exact altTags_of_mem _ (by decide +kernel) (cmdText c, c) (by cases c <;> decide) rest

theorem checkExpr_ok {o : Op} {l r : Expr} (h : o = .bind ∨ isIfE l = false) :
    checkExpr o l r = some (.sexp o l r) := by
  rcases h with rfl | h
  · rfl
  · unfold checkExpr
    split
    · rfl
    · split
      · simp [isIfE] at h
      · simp [isIfE] at h
      · rfl

theorem rexpr_nonatom_head {e : Expr} {t : List Char} (h : RExpr e t) (hn : isAtomE e = false) :
    ∃ cs, t = '(' :: cs := by
  cases h with
  | atom ha => simp [isAtomE] at hn
  | cmd c h1 h2 => exact ⟨_, rfl⟩
  | sexp => exact ⟨_, rfl⟩

theorem rparen_not_space : isSpace ')' = false := by decide
theorem lparen_not_space : isSpace '(' = false := by decide

theorem ratom_noSpaceHead {p : Prim} {t : List Char} (h : RAtom p t) : noSpaceHead t = true := by
  obtain ⟨c, cs, rfl, hc | rfl⟩ := ratom_head h
  · simp [noSpaceHead, nameChar_not_space hc]
  · rfl

/-- `expr` also eats the whitespace that follows; an atom needs a token boundary behind it -/
theorem rexpr_parses {e : Expr} {t : List Char} (h : RExpr e t) :
    ∀ (rest : List Char) (fuel : Nat), t.length < fuel → (isAtomE e = true → NoNameHead rest) →
      expr fuel (t ++ rest) = some (e, skipSpace rest) := by
  induction h with
  | atom ha =>
    intro rest fuel hf hb
    obtain ⟨c, cs, rfl, hc⟩ := ratom_head ha
    cases fuel with
    | zero => omega
    | succ f =>
      have hat := ratom_parses ha (hb rfl)
      have hp : isSpace c = false ∧ c ≠ '#' ∧ c ≠ '(' := by
        rcases hc with hc | rfl
        · exact ⟨nameChar_not_space hc, ne_of_true_false hc (by decide), ne_of_true_false hc (by decide)⟩
        · decide
      exact expr_atom_intro (skipSpace_cons_of_not_space hp.1 _) hp.2.1 hp.2.2 hat
  | cmd c h1 h2 =>
    intro rest fuel hf hb
    rename_i w1 w2
    cases fuel with
    | zero => omega
    | succ f =>
      simp only [List.cons_append, List.append_assoc, List.nil_append]
      refine expr_cmd_intro (r1 := ?q1) (skipSpace_cons_of_not_space lparen_not_space _) ?noop ?hc ?h2
      case noop => rw [skipSpace_ws_noSpaceHead h1 (cmdText_noSpaceHead c)]; exact op_cmdText c _
      case hc => rw [skipSpace_ws_noSpaceHead h1 (cmdText_noSpaceHead c)]; exact cmd_cmdText c _
      case h2 => exact skipSpace_ws_cons h2 rparen_not_space _
  | sexp ho h0 h1 hl h2 hsep hr h3 hck ihl ihr =>
    intro rest fuel hf hb
    rename_i o l r ot w0 w1 tl w2 tr w3
    cases fuel with
    | zero => omega
    | succ f =>
      simp only [List.length_cons, List.length_append] at hf
      simp only [List.cons_append, List.append_assoc, List.nil_append]
      have hbl : isAtomE l = true → NoNameHead (w2 ++ (tr ++ (w3 ++ ')' :: rest))) := by
        intro hla
        refine noNameHead_ws_append h2 ?_
        rcases hsep with h | h | h
        · exact .inl h
        · rw [hla] at h; cases h
        · obtain ⟨cs, rfl⟩ := rexpr_nonatom_head hr h
          exact .inr (noNameHead_cons (by decide) _)
      have hbr : isAtomE r = true → NoNameHead (w3 ++ ')' :: rest) := fun _ =>
        noNameHead_ws_append h3 (.inr (noNameHead_cons (by decide) _))
      -- the remainders `r1`, `r2`, `r3` are found by unification as the parts are read
      refine expr_sexp_intro (r1 := ?r1) (r2 := ?r2) (r3 := ?r3) (skipSpace_cons_of_not_space lparen_not_space _)
        ?hop ?hl ?hr (checkExpr_ok hck) ?h4
      case hop =>
        rw [skipSpace_ws_noSpaceHead h0 (rop_noSpaceHead ho)]
        exact spelling_table (ot, o) ho _
      case hl =>
        rw [expr_skipSpace, ws_append_of_skipSpace (expr_skipSpace f) h1]
        exact ihl _ f (by omega) hbl
      case hr =>
        rw [expr_skipSpace, expr_skipSpace, ws_append_of_skipSpace (expr_skipSpace f) h2]
        exact ihr _ f (by omega) hbr
      case h4 => rw [skipSpace_idem]; exact skipSpace_ws_cons h3 rparen_not_space _

theorem rexpr_parses_ws {e : Expr} {t w : List Char} (h : RExpr e t) (hw : Ws w) (rest : List Char) (fuel : Nat)
    (hf : t.length < fuel) (hb : isAtomE e = true → NoNameHead rest) :
    expr fuel (w ++ (t ++ rest)) = some (e, skipSpace rest) := by
  rw [ws_append_of_skipSpace (expr_skipSpace fuel) hw]
  exact rexpr_parses h rest fuel hf hb

theorem takeUntilNl_line {text : List Char} (h : ∀ c ∈ text, c ≠ '\n') (rest : List Char) :
    takeUntilNl (text ++ '\n' :: rest) = some (text, '\n' :: rest) := by
  unfold takeUntilNl
  rw [spanChars_append _ text ('\n' :: rest) (fun c hc => by simpa using h c hc)
    (by intro c hc; simp at hc; subst hc; simp)]

theorem nl_space : isSpace '\n' = true := by decide
theorem hash_not_space : isSpace '#' = false := by decide

theorem ritem_parses {e : Expr} {t : List Char} (h : RItem e t) (rest : List Char) (fuel : Nat)
    (hf : t.length < fuel) : expr fuel (t ++ rest) = some (e, skipSpace rest) := by
  cases h with
  | stmt h hn => exact rexpr_parses h rest fuel hf (by rw [hn]; intro h; cases h)
  | comment htx =>
    rename_i text
    cases fuel with
    | zero => omega
    | succ f =>
      simp only [commentLine, List.cons_append, List.append_assoc, List.nil_append]
      have := expr_comment_intro (fuel := f) (skipSpace_cons_of_not_space hash_not_space _) (takeUntilNl_line htx rest)
      rw [this]
      simp [skipSpace, nl_space]

theorem ritem_head {e : Expr} {t : List Char} (h : RItem e t) : ∃ cs, t = '(' :: cs ∨ t = '#' :: cs := by
  cases h with
  | stmt h hn => obtain ⟨cs, rfl⟩ := rexpr_nonatom_head h hn; exact ⟨cs, .inl rfl⟩
  | comment htx => exact ⟨_, .inr rfl⟩

theorem ritem_ne_nil {e : Expr} {t : List Char} (h : RItem e t) : t ≠ [] := by
  obtain ⟨cs, rfl | rfl⟩ := ritem_head h <;> simp

theorem rstmts_noSpaceHead {es : List Expr} {t : List Char} (h : RStmts es t) : noSpaceHead t = true := by
  cases h with
  | one h => obtain ⟨cs, rfl | rfl⟩ := ritem_head h <;> rfl
  | cons h hw hs => obtain ⟨cs, rfl | rfl⟩ := ritem_head h <;> rfl

theorem rstmts_noNameHead {es : List Expr} {t : List Char} (h : RStmts es t) (x : List Char) : NoNameHead (t ++ x) := by
  cases h with
  | one h => obtain ⟨cs, rfl | rfl⟩ := ritem_head h <;> exact noNameHead_cons (by decide) _
  | cons h hw hs => obtain ⟨cs, rfl | rfl⟩ := ritem_head h <;> exact noNameHead_cons (by decide) _

theorem rstmts_many {es : List Expr} {t : List Char} (h : RStmts es t) :
    ∀ (tail rest : List Char) (fuel : Nat), t.length < fuel → skipSpace tail = ')' :: rest →
      Many (expr fuel) (t ++ tail) es (')' :: rest) := by
  induction h with
  | one h =>
    intro tail rest fuel hf ht
    refine .step (r := ')' :: rest) ?_ ?_ (.stop ?_)
    · rw [← ht]; exact ritem_parses h tail fuel hf
    · rw [← ht]; exact skipSpace_append_length_lt (ritem_ne_nil h) _
    · exact expr_rparen fuel (skipSpace_cons_of_not_space rparen_not_space _)
  | cons h hw hs ih =>
    intro tail rest fuel hf ht
    rename_i e es t w ts
    simp only [List.length_append] at hf
    simp only [List.append_assoc]
    have hsk : skipSpace (w ++ (ts ++ tail)) = ts ++ tail := skipSpace_ws_noSpaceHead hw (rstmts_noSpaceHead hs) _
    refine .step (r := ts ++ tail) ?_ ?_ (ih tail rest fuel (by omega) ht)
    · have := ritem_parses h (w ++ (ts ++ tail)) fuel (by omega)
      rw [hsk] at this; exact this
    · have := skipSpace_append_length_lt (ritem_ne_nil h) (w ++ (ts ++ tail))
      rw [hsk] at this; exact this

theorem rstmts_parse {es : List Expr} {t : List Char} (h : RStmts es t) (tail rest : List Char) (fuel : Nat)
    (hf : t.length < fuel) (ht : skipSpace tail = ')' :: rest) :
    exprs fuel (t ++ tail) = some (es, ')' :: rest) := by
  exact many1_of_many_ne (rstmts_many h tail rest fuel hf ht) (by cases h <;> exact List.cons_ne_nil _ _)

theorem event_intro {fuel : Nat} {inp r0 r1 r2 r3 r4 : List Char} {c : Expr} {b : List Expr}
    (h0 : skipSpace inp = '(' :: r0)
    (h1 : skipSpace r0 = 'w' :: 'h' :: 'e' :: 'n' :: r1)
    (hc : expr fuel r1 = some (c, r2))
    (hb : exprs fuel r2 = some (b, r3))
    (h4 : skipSpace r3 = ')' :: r4) :
    event fuel inp = some (⟨c, b⟩, skipSpace r4) := by
  unfold event
  simp only [ms0, Option.bind_eq_bind, Option.bind_some, Option.pure_def, String.reduceToList, h0, tag_cons_cons,
    tag_nil, if_true, h1, hc, hb, h4]

theorem event_none_of_body {fuel : Nat} {inp r0 r1 r2 : List Char} {c : Expr}
    (h0 : skipSpace inp = '(' :: r0) (h1 : skipSpace r0 = 'w' :: 'h' :: 'e' :: 'n' :: r1)
    (hc : expr fuel r1 = some (c, r2)) (hb : exprs fuel r2 = none) : event fuel inp = none := by
  unfold event
  simp only [ms0, Option.bind_eq_bind, Option.bind_some, Option.bind_none, Option.pure_def, String.reduceToList, h0,
    tag_cons_cons, tag_nil, if_true, h1, hc, hb]

theorem event_skipSpace (fuel : Nat) (inp : List Char) : event fuel (skipSpace inp) = event fuel inp := by
  unfold event
  simp only [ms0, skipSpace_idem]

theorem revent_parses {e : Event} {t : List Char} (h : REvent e t) (rest : List Char) (fuel : Nat)
    (hf : t.length < fuel) : event fuel (t ++ rest) = some (e, skipSpace rest) := by
  cases h with
  | mk h0 h1 h2 hc h3 hb h4 h5 =>
    rename_i c b w0 w1 w2 tc w3 tb w4 w5
    simp only [List.length_cons, List.length_append] at hf
    simp only [List.cons_append, List.append_assoc, List.nil_append, String.reduceToList]
    rw [← skipSpace_ws h5 rest]
    refine event_intro (r2 := ?r2) (r3 := ?r3) (skipSpace_ws_cons h0 lparen_not_space _)
      (skipSpace_ws_cons h1 (by decide) _) ?cond ?body ?close
    case cond =>
      exact rexpr_parses_ws hc h2 _ fuel (by omega)
        (fun _ => noNameHead_ws_append h3 (.inr (rstmts_noNameHead hb _)))
    case body =>
      rw [skipSpace_ws_noSpaceHead h3 (rstmts_noSpaceHead hb)]
      exact rstmts_parse hb _ _ fuel (by omega) (skipSpace_ws_cons h4 rparen_not_space _)
    case close => exact skipSpace_cons_of_not_space rparen_not_space _

/-- the parser `events` iterates -/
def evItem (fuel : Nat) : Parser Event := fun inp => do
  let (_, r) ← ms0 inp
  let r := match comment r with
    | some (_, q) => q
    | none => r
  let (e, r) ← event fuel r
  let (_, r) ← ms0 r
  pure (e, r)

theorem events_eq (fuel : Nat) : events fuel = many1 (evItem fuel) := rfl

theorem evItem_skipSpace (fuel : Nat) (inp : List Char) : evItem fuel (skipSpace inp) = evItem fuel inp := by
  unfold evItem
  simp only [ms0, skipSpace_idem]

theorem evItem_plain {fuel : Nat} {inp r : List Char} {e : Event}
    (h0 : comment (skipSpace inp) = none) (he : event fuel inp = some (e, r)) :
    evItem fuel inp = some (e, skipSpace r) := by
  unfold evItem
  simp only [ms0, Option.bind_eq_bind, Option.bind_some, Option.pure_def, h0, event_skipSpace, he]

theorem evItem_commented {fuel : Nat} {inp r0 r1 txt r : List Char} {e : Event}
    (h0 : skipSpace inp = '#' :: r0) (h1 : takeUntilNl r0 = some (txt, r1))
    (he : event fuel r1 = some (e, r)) :
    evItem fuel inp = some (e, skipSpace r) := by
  unfold evItem
  simp only [ms0, Option.bind_eq_bind, Option.bind_some, Option.pure_def, h0, comment, String.reduceToList,
    tag_cons_cons, tag_nil, if_true, h1, he]

theorem evItem_none {fuel : Nat} {inp : List Char} (h0 : comment (skipSpace inp) = none)
    (he : event fuel inp = none) : evItem fuel inp = none := by
  unfold evItem
  simp only [ms0, Option.bind_eq_bind, Option.bind_some, Option.bind_none, h0, event_skipSpace, he]

theorem revent_shape {e : Event} {t : List Char} (h : REvent e t) : ∃ w z, Ws w ∧ t = w ++ '(' :: z := by
  cases h with
  | mk h0 => exact ⟨_, _, h0, rfl⟩

theorem revitem_shape {e : Event} {t : List Char} (h : REvItem e t) :
    ∃ w c z, Ws w ∧ isSpace c = false ∧ t = w ++ c :: z := by
  cases h with
  | plain h => obtain ⟨w, z, hw, rfl⟩ := revent_shape h; exact ⟨w, '(', z, hw, lparen_not_space, rfl⟩
  | commented hw htx h => exact ⟨_, '#', _, hw, hash_not_space, rfl⟩

theorem revitem_parses {e : Event} {t : List Char} (h : REvItem e t) (rest : List Char) (fuel : Nat)
    (hf : t.length < fuel) : evItem fuel (t ++ rest) = some (e, skipSpace rest) := by
  rw [← skipSpace_idem rest]
  cases h with
  | plain h =>
    refine evItem_plain ?_ (revent_parses h rest fuel hf)
    obtain ⟨w, z, hw, rfl⟩ := revent_shape h
    rw [List.append_assoc, List.cons_append, skipSpace_ws_cons hw lparen_not_space]
    rfl
  | commented hw htx h =>
    rename_i w text t
    simp only [List.length_append, commentLine, List.length_cons] at hf
    simp only [commentLine, List.cons_append, List.append_assoc, List.nil_append]
    refine evItem_commented (skipSpace_ws_cons hw hash_not_space _) (takeUntilNl_line htx _) ?_
    -- the newline that ends the comment is whitespace in front of the event
    rw [← event_skipSpace, skipSpace, if_pos nl_space, event_skipSpace]
    exact revent_parses h rest fuel (by omega)

/-- what may follow the events: nothing that, after blanks, starts another event or a comment -/
def EventsEnd (rest : List Char) : Prop := ∀ c cs, skipSpace rest = c :: cs → c ≠ '(' ∧ c ≠ '#'

theorem EventsEnd.nil : EventsEnd [] := by intro c cs h; cases h

theorem evItem_end {rest : List Char} (h : EventsEnd rest) (fuel : Nat) : evItem fuel (skipSpace rest) = none := by
  have hid := skipSpace_idem rest
  unfold evItem
  simp only [ms0, Option.bind_eq_bind, Option.bind_some, hid]
  cases hs : skipSpace rest with
  | nil => rfl
  | cons c cs =>
    obtain ⟨h1, h2⟩ := h c cs hs
    rw [hs] at hid
    unfold event
    simp only [comment, String.reduceToList, tag_cons_ne _ _ h2, tag_cons_ne _ _ h1, Option.bind_eq_bind,
      Option.bind_none, ms0, hid, Option.bind_some]

theorem revents_many {evs : List Event} {t : List Char} (h : REvents evs t) :
    ∀ (rest : List Char) (fuel : Nat), t.length < fuel → EventsEnd rest →
      Many (evItem fuel) (skipSpace (t ++ rest)) evs (skipSpace rest) := by
  induction h with
  | one h =>
    intro rest fuel hf he
    refine .step (r := skipSpace rest) ?_ ?_ (.stop (evItem_end he fuel))
    · rw [evItem_skipSpace]; exact revitem_parses h rest fuel hf
    · obtain ⟨w, c, z, hw, hc, rfl⟩ := revitem_shape h
      exact skipSpace_length_lt_of_token hw hc rest
  | cons h hs ih =>
    intro rest fuel hf he
    rename_i e es t ts
    simp only [List.length_append] at hf
    refine .step (r := skipSpace (ts ++ rest)) ?_ ?_ (ih rest fuel (by omega) he)
    · rw [evItem_skipSpace, List.append_assoc]; exact revitem_parses h _ fuel (by omega)
    · obtain ⟨w, c, z, hw, hc, rfl⟩ := revitem_shape h
      rw [List.append_assoc]
      exact skipSpace_length_lt_of_token hw hc _

theorem events_skipSpace (fuel : Nat) (inp : List Char) : events fuel (skipSpace inp) = events fuel inp := by
  rw [events_eq]
  unfold many1
  rw [evItem_skipSpace]

theorem revents_parse {evs : List Event} {t : List Char} (h : REvents evs t) (rest : List Char) (fuel : Nat)
    (hf : t.length < fuel) (he : EventsEnd rest) :
    events fuel (t ++ rest) = some (evs, skipSpace rest) := by
  rw [← events_skipSpace, events_eq]
  exact many1_of_many_ne (revents_many h rest fuel hf he) (by cases h <;> exact List.cons_ne_nil _ _)

theorem docName_noSpaceHead {x : List Char} (hx : DocName x) : noSpaceHead x = true := by
  obtain ⟨c, cs, rfl, hch, _⟩ := hx.spec
  simp [noSpaceHead, nameChar_not_space (hch c (by simp))]

theorem noNameHead_append {a : List Char} (h : NoNameHead a) (hne : a ≠ []) (y : List Char) : NoNameHead (a ++ y) := by
  cases a with
  | nil => exact absurd rfl hne
  | cons c cs => exact h

theorem decl_skipSpace (inp : List Char) : decl (skipSpace inp) = decl inp := by
  unfold decl
  simp only [ms0, skipSpace_idem]

theorem reportStruct_skipSpace (inp : List Char) : reportStruct (skipSpace inp) = reportStruct inp := by
  unfold reportStruct
  simp only [ms0, skipSpace_idem]

theorem decl_intro_plain {inp r0 r1 r2 r3 : List Char} {x : Name} {a : Expr}
    (h0 : skipSpace inp = '(' :: r0)
    (hv : tag "volatile".toList (skipSpace r0) = none)
    (hn : name (skipSpace r0) = some (x, r1))
    (ha : atom (skipSpace r1) = some (a, r2))
    (h3 : skipSpace r2 = ')' :: r3) :
    decl inp = some ({ vol := false, var := x, init := initTy a }, skipSpace r3) := by
  unfold decl
  simp only [ms0, Option.bind_eq_bind, Option.bind_some, Option.pure_def, h0, skipSpace_idem,
    tag_cons_cons, tag_nil, if_true, String.reduceToList]
  simp only [String.reduceToList] at hv
  simp only [hv, Option.bind_none, hn, Option.bind_some, ha, h3, tag_cons_cons, tag_nil, if_true]

theorem decl_intro_vol {inp r0 rv r1 r2 r3 : List Char} {x : Name} {a : Expr}
    (h0 : skipSpace inp = '(' :: r0)
    (hv : skipSpace r0 = 'v' :: 'o' :: 'l' :: 'a' :: 't' :: 'i' :: 'l' :: 'e' :: rv)
    (hn : name (skipSpace rv) = some (x, r1))
    (ha : atom (skipSpace r1) = some (a, r2))
    (h3 : skipSpace r2 = ')' :: r3) :
    decl inp = some ({ vol := true, var := x, init := initTy a }, skipSpace r3) := by
  unfold decl
  simp only [ms0, Option.bind_eq_bind, Option.bind_some, Option.pure_def, h0, skipSpace_idem, hv, hn,
    ha, h3, tag_cons_cons, tag_nil, if_true, String.reduceToList]

theorem decl_none_of_atom {inp r0 r1 : List Char} {x : Name} (h0 : skipSpace inp = '(' :: r0)
    (hv : tag "volatile".toList (skipSpace r0) = none) (hn : name (skipSpace r0) = some (x, r1))
    (ha : atom (skipSpace r1) = none) : decl inp = none := by
  unfold decl
  simp only [String.reduceToList] at hv
  simp only [ms0, Option.bind_eq_bind, Option.bind_some, Option.bind_none, Option.pure_def, h0, skipSpace_idem, hv, hn,
    ha, tag_cons_cons, tag_nil, if_true, String.reduceToList]

theorem decl_none_of_head {inp cs : List Char} {c : Char} (h : skipSpace inp = c :: cs) (hc : c ≠ '(') : decl inp = none := by
  unfold decl
  simp only [ms0, Option.bind_eq_bind, Option.bind_some, h, String.reduceToList, tag_cons_ne _ _ hc, Option.bind_none]

theorem volText_false (w : List Char) : volText false w = [] := rfl
theorem volText_true (w : List Char) :
    volText true w = 'v' :: 'o' :: 'l' :: 'a' :: 't' :: 'i' :: 'l' :: 'e' :: w := rfl

theorem rdecl_parses {d : Decl} {t : List Char} (h : RDecl d t) (rest : List Char) :
    decl (t ++ rest) = some (d, skipSpace rest) := by
  cases h with
  | mk v h0 h1 h2 hx h3 hp ha hsep h4 h5 =>
    rename_i x p w0 w1 w2 w3 ta w4 w5
    obtain ⟨c, cs, hta, _⟩ := ratom_head ha
    have hsep' : ∀ y, NoNameHead (w3 ++ (ta ++ y)) := fun y => by
      rw [← List.append_assoc]
      exact noNameHead_append hsep (by rw [hta]; simp) _
    rw [← skipSpace_ws h5 rest]
    cases v with
    | false =>
      simp only [volText_false, List.cons_append, List.append_assoc, List.nil_append]
      refine decl_intro_plain (r1 := ?r1) (r2 := ?r2) (skipSpace_ws_cons h0 lparen_not_space _) ?novol ?nm ?init ?close
      case novol =>
        rw [skipSpace_ws_noSpaceHead h1 (docName_noSpaceHead hx.1)]
        exact tag_append_none (by decide) hx.2 (hsep' _)
      case nm =>
        rw [skipSpace_ws_noSpaceHead h1 (docName_noSpaceHead hx.1)]
        exact name_docName hx.1 (hsep' _)
      case init =>
        rw [skipSpace_ws_noSpaceHead h3 (ratom_noSpaceHead ha)]
        exact ratom_parses ha (noNameHead_ws_append h4 (.inr (noNameHead_cons (c := ')') (by decide) _)))
      case close => exact skipSpace_ws_cons h4 rparen_not_space _
    | true =>
      simp only [volText_true, List.cons_append, List.append_assoc]
      refine decl_intro_vol (r1 := ?s1) (r2 := ?s2) (skipSpace_ws_cons h0 lparen_not_space _)
        (skipSpace_ws_cons h1 (by decide) _) ?vnm ?vinit ?vclose
      case vnm =>
        rw [skipSpace_ws_noSpaceHead h2 (docName_noSpaceHead hx.1)]
        exact name_docName hx.1 (hsep' _)
      case vinit =>
        rw [skipSpace_ws_noSpaceHead h3 (ratom_noSpaceHead ha)]
        exact ratom_parses ha (noNameHead_ws_append h4 (.inr (noNameHead_cons (c := ')') (by decide) _)))
      case vclose => exact skipSpace_ws_cons h4 rparen_not_space _

theorem rdecl_shape {d : Decl} {t : List Char} (h : RDecl d t) : ∃ w z, Ws w ∧ t = w ++ '(' :: z := by
  cases h with
  | mk v h0 => exact ⟨_, _, h0, rfl⟩

theorem rdecls_shape {ds : List Decl} {t : List Char} (h : RDecls ds t) (hne : ds ≠ []) :
    ∃ w z, Ws w ∧ t = w ++ '(' :: z := by
  cases h with
  | nil => exact absurd rfl hne
  | cons h hs =>
    rename_i d ds t ts
    obtain ⟨w, z, hw, rfl⟩ := rdecl_shape h
    exact ⟨w, z ++ ts, hw, by simp only [List.append_assoc, List.cons_append]⟩

theorem rdecls_many {ds : List Decl} {t : List Char} (h : RDecls ds t) :
    ∀ (tail : List Char), decl tail = none → Many decl (skipSpace (t ++ tail)) ds (skipSpace tail) := by
  induction h with
  | nil => intro tail ht; exact .stop (by rw [decl_skipSpace]; exact ht)
  | cons h hs ih =>
    intro tail ht
    rename_i d ds t ts
    refine .step (r := skipSpace (ts ++ tail)) ?_ ?_ (ih tail ht)
    · rw [decl_skipSpace, List.append_assoc]; exact rdecl_parses h _
    · obtain ⟨w, z, hw, rfl⟩ := rdecl_shape h
      rw [List.append_assoc]
      exact skipSpace_length_lt_of_token hw lparen_not_space _

theorem many_unskip {α : Type} {p : Parser α} (hp : ∀ x, p (skipSpace x) = p x) {inp out : List Char} {a : α}
    {as : List α} (h : Many p (skipSpace inp) (a :: as) out) : Many p inp (a :: as) out := by
  cases h with
  | step h hlt hs =>
    rw [hp] at h
    exact .step h (by have := skipSpace_length_le inp; omega) hs

/-- what `many0(decl)` leaves: it gives back its input untouched if it reads nothing -/
def afterDecls (ds : List Decl) (tail : List Char) : List Char :=
  match ds with
  | [] => tail
  | _ :: _ => skipSpace tail

theorem skipSpace_afterDecls (ds : List Decl) (tail : List Char) : skipSpace (afterDecls ds tail) = skipSpace tail := by
  cases ds with
  | nil => rfl
  | cons d ds => exact skipSpace_idem _

theorem afterDecls_cons (ds : List Decl) {c : Char} (hc : isSpace c = false) (cs : List Char) :
    afterDecls ds (c :: cs) = c :: cs := by
  cases ds with
  | nil => rfl
  | cons d ds => exact skipSpace_cons_of_not_space hc _

theorem rdecls_many0 {ds : List Decl} {t : List Char} (h : RDecls ds t) (tail : List Char) (ht : decl tail = none) :
    many0 decl (t ++ tail) = some (ds, afterDecls ds tail) := by
  have hm := rdecls_many h tail ht
  cases h with
  | nil => exact many0_of_many (.stop ht)
  | cons h hs => exact many0_of_many (many_unskip decl_skipSpace hm)

theorem rdecls_many1 {ds : List Decl} {t : List Char} (h : RDecls ds t) (hne : ds ≠ []) (tail : List Char)
    (ht : decl tail = none) : many1 decl (t ++ tail) = some (ds, skipSpace tail) := by
  have hm := rdecls_many h tail ht
  cases h with
  | nil => exact absurd rfl hne
  | cons h hs => exact many1_of_many_ne (many_unskip decl_skipSpace hm) hne

theorem reportStruct_intro {inp r0 r1 r2 r3 : List Char} {ds : List Decl}
    (h0 : skipSpace inp = '(' :: r0)
    (h1 : skipSpace r0 = 'R' :: 'e' :: 'p' :: 'o' :: 'r' :: 't' :: r1)
    (h2 : many1 decl r1 = some (ds, r2))
    (h3 : skipSpace r2 = ')' :: r3) :
    reportStruct inp = some (ds, skipSpace r3) := by
  unfold reportStruct
  simp only [ms0, Option.bind_eq_bind, Option.bind_some, Option.pure_def, h0, h1, h2, h3, tag_cons_cons, tag_nil,
    if_true, String.reduceToList]

theorem reportStruct_none_of_decl {inp r0 r1 : List Char} (h0 : skipSpace inp = '(' :: r0)
    (h1 : skipSpace r0 = 'R' :: 'e' :: 'p' :: 'o' :: 'r' :: 't' :: r1) (h2 : many1 decl r1 = none) :
    reportStruct inp = none := by
  unfold reportStruct
  simp only [ms0, Option.bind_eq_bind, Option.bind_some, Option.bind_none, h0, h1, h2, tag_cons_cons, tag_nil,
    if_true, String.reduceToList]

theorem reportStruct_none_of_head {inp cs : List Char} {c : Char} (h : skipSpace inp = c :: cs) (hc : c ≠ '(') :
    reportStruct inp = none := by
  unfold reportStruct
  simp only [ms0, Option.bind_eq_bind, Option.bind_some, h, String.reduceToList, tag_cons_ne _ _ hc, Option.bind_none]

/-- `many0(decl)` stops in front of the Report block: `decl` reads `(`, the name `Report`, and then fails
on the `(` of the first entry -/
theorem decl_report_none {inp r0 r1 r2 : List Char}
    (h0 : skipSpace inp = '(' :: r0)
    (h1 : skipSpace r0 = 'R' :: 'e' :: 'p' :: 'o' :: 'r' :: 't' :: r1)
    (hb : NoNameHead r1) (h2 : skipSpace r1 = '(' :: r2) :
    decl inp = none := by
  have hn : name ('R' :: 'e' :: 'p' :: 'o' :: 'r' :: 't' :: r1) = some (['R', 'e', 'p', 'o', 'r', 't'], r1) :=
    name_docName (x := ['R', 'e', 'p', 'o', 'r', 't']) (by decide) hb
  unfold decl
  simp only [ms0, Option.bind_eq_bind, Option.bind_some, Option.bind_none, Option.pure_def, h0, skipSpace_idem, h1, hn,
    h2, atom_lparen, tag_cons_cons, tag_nil, if_true, if_false, Char.reduceEq, String.reduceToList]

theorem defs_intro_plain {inp r0 r1 r3 : List Char} {d1 d2 : List Decl}
    (h0 : skipSpace inp = '(' :: 'd' :: 'e' :: 'f' :: r0)
    (h1 : many0 decl r0 = some (d1, r1))
    (h2 : reportStruct r1 = none)
    (h3 : many0 decl r1 = some (d2, ')' :: r3)) :
    defs inp = some (d1 ++ d2, skipSpace r3) := by
  unfold defs
  simp only [ms0, Option.bind_eq_bind, Option.bind_some, Option.pure_def, h0, h1, h2, h3, tag_cons_cons, tag_nil,
    if_true, String.reduceToList, List.map_nil, List.nil_append]

theorem defs_intro_report {inp r0 r1 r2 r3 : List Char} {d1 rs d2 : List Decl}
    (h0 : skipSpace inp = '(' :: 'd' :: 'e' :: 'f' :: r0)
    (h1 : many0 decl r0 = some (d1, r1))
    (h2 : reportStruct r1 = some (rs, r2))
    (h3 : many0 decl r2 = some (d2, ')' :: r3)) :
    defs inp = some (rs.map reportPrefix ++ d1 ++ d2, skipSpace r3) := by
  unfold defs
  simp only [ms0, Option.bind_eq_bind, Option.bind_some, Option.pure_def, h0, h1, h2, h3, tag_cons_cons, tag_nil,
    if_true, String.reduceToList]
  rfl

theorem defs_none_of {inp r0 : List Char} (h0 : skipSpace inp = '(' :: 'd' :: 'e' :: 'f' :: r0)
    (h1 : decl r0 = none) (h2 : reportStruct r0 = none) (h3 : tag ")".toList r0 = none) : defs inp = none := by
  unfold defs
  simp only [String.reduceToList] at h3
  simp only [ms0, Option.bind_eq_bind, Option.bind_some, Option.bind_none, h0, many0_of_many (.stop h1), h2, h3, tag_cons_cons,
    tag_nil, if_true, String.reduceToList]

theorem decl_rparen (cs : List Char) : decl (')' :: cs) = none :=
  decl_none_of_head (skipSpace_cons_of_not_space rparen_not_space cs) (by decide)

theorem rdefs_parse {ds : List Decl} {t : List Char} (h : RDefs ds t) (rest : List Char) :
    defs (t ++ rest) = some (ds, skipSpace rest) := by
  cases h with
  | plain h0 hd h1 =>
    rename_i w0 td w1
    simp only [List.cons_append, List.append_assoc, List.nil_append, String.reduceToList]
    rw [← skipSpace_ws h1 rest, ← List.append_nil ds]
    refine defs_intro_plain (r1 := ?r1) (skipSpace_ws_cons h0 lparen_not_space _) ?first ?norep ?second
    case first =>
      rw [rdecls_many0 hd _ (decl_rparen _), afterDecls_cons ds rparen_not_space]
    case norep => exact reportStruct_none_of_head (skipSpace_cons_of_not_space rparen_not_space _) (by decide)
    case second => exact many0_of_many (.stop (decl_rparen _))
  | report h0 hd1 hr0 hr1 hrs hne hr2 hr3 hd2 h1 =>
    rename_i d1 rs d2 w0 t1 wr0 wr1 tr wr2 wr3 t2 w1
    simp only [List.cons_append, List.append_assoc, List.nil_append, String.reduceToList]
    obtain ⟨w, z, hw, rfl⟩ := rdecls_shape hrs hne
    rw [← skipSpace_ws h1 rest, ← List.append_assoc (List.map reportPrefix rs)]
    refine defs_intro_report (r1 := ?s1) (r2 := ?s2) (skipSpace_ws_cons h0 lparen_not_space _) ?before ?block ?after
    case before =>
      refine rdecls_many0 hd1 _ (decl_report_none (r2 := ?s3) (skipSpace_ws_cons hr0 lparen_not_space _)
        (skipSpace_ws_cons hr1 (by decide) _) ?bound ?paren)
      case paren => rw [List.append_assoc, List.cons_append]; exact skipSpace_ws_cons hw lparen_not_space _
      case bound =>
        rw [List.append_assoc]
        exact noNameHead_ws_append hw (.inr (noNameHead_cons (c := '(') (by decide) _))
    case block =>
      rw [← reportStruct_skipSpace, skipSpace_afterDecls, reportStruct_skipSpace]
      refine reportStruct_intro (r2 := ?s4) (r3 := ?s5) (skipSpace_ws_cons hr0 lparen_not_space _)
        (skipSpace_ws_cons hr1 (by decide) _) ?entries ?close
      case entries =>
        rw [rdecls_many1 hrs hne _ (decl_none_of_head (skipSpace_ws_cons hr2 rparen_not_space _) (by decide)),
          skipSpace_ws_cons hr2 rparen_not_space]
      case close => exact skipSpace_cons_of_not_space rparen_not_space _
    case after =>
      rw [skipSpace_ws hr3, many0_of_many (rdecls_many hd2 _ (decl_rparen _)),
        skipSpace_cons_of_not_space rparen_not_space]

/-- what `parseSource` does to the parsed events -/
def desugarEvents (evs : List Event) : List Event :=
  evs.map fun e => { e with body := e.body.map desugar }

/-- every rendering of a program parses back to that program, whatever the layout -/
theorem parse_render {ds : List Decl} {evs : List Event} {t : List Char} (h : RProg ds evs t) :
    parseSource t = some (ds, evs.map fun e => { e with body := e.body.map desugar }) := by
  obtain ⟨t1, t2, hd, he, rfl⟩ := h
  have h1 := rdefs_parse hd t2
  have h2 := revents_parse he [] ((t1 ++ t2).length + 1) (by simp only [List.length_append]; omega) EventsEnd.nil
  rw [List.append_nil, ← events_skipSpace] at h2
  exact parseSource_of h1 h2

/-- two layouts of one program (same comment positions) have the same parse, hence the same image -/
theorem layout_independent {ds : List Decl} {evs : List Event} {t1 t2 : List Char}
    (h1 : RProg ds evs t1) (h2 : RProg ds evs t2) : parseSource t1 = parseSource t2 := by
  rw [parse_render h1, parse_render h2]

theorem desugar_eq_none (e : Expr) : desugar e = .none ↔ e = .none := by
  cases e with
  | atom p => simp [desugar]
  | cmd c => cases c <;> simp [desugar]
  | sexp o l r => simp [desugar]
  | none => simp [desugar]

theorem filter_none_desugar (b : List Expr) :
    (b.map desugar).filter (· ≠ .none) = (b.filter (· ≠ .none)).map desugar := by
  rw [List.filter_map]
  congr 2
  funext e
  simp only [Function.comp, ne_eq, desugar_eq_none]

theorem stripNone_desugar (evs : List Event) :
    stripNone (evs.map fun e => { e with body := e.body.map desugar }) =
      (stripNone evs).map fun e => { e with body := e.body.map desugar } := by
  simp only [stripNone, List.map_map]
  apply List.map_congr_left
  intro e _
  simp only [Function.comp, filter_none_desugar]

/-- comments only add `Expr.none` items (events level): two renderings of event lists that agree up to
`Expr.none` items in the bodies parse to event lists that agree up to `Expr.none` items -/
theorem comments_only_add_none_events {evs evs' : List Event} {t t' : List Char}
    (h : REvents evs t) (h' : REvents evs' t') (hs : stripNone evs = stripNone evs')
    (fuel fuel' : Nat) (hf : t.length < fuel) (hf' : t'.length < fuel') :
    ∃ p p', events fuel t = some (p, []) ∧ events fuel' t' = some (p', []) ∧ stripNone p = stripNone p' := by
  refine ⟨evs, evs', ?_, ?_, hs⟩
  · have := revents_parse h [] fuel hf EventsEnd.nil
    rwa [List.append_nil] at this
  · have := revents_parse h' [] fuel' hf' EventsEnd.nil
    rwa [List.append_nil] at this

/-- comments only add `Expr.none` items (program level): if two programs agree up to `Expr.none` items in
the bodies, so do the parse results of any of their layouts (and the compiler skips `Expr.none`) -/
theorem comments_only_add_none {ds : List Decl} {evs evs' : List Event} {t t' : List Char}
    (h : RProg ds evs t) (h' : RProg ds evs' t') (hs : stripNone evs = stripNone evs') :
    ∃ p p', parseSource t = some (ds, p) ∧ parseSource t' = some (ds, p') ∧ stripNone p = stripNone p' := by
  refine ⟨_, _, parse_render h, parse_render h', ?_⟩
  rw [stripNone_desugar, stripNone_desugar, hs]

/-! ## The documented style is covered

The relation asks for a separator only between two adjacent atoms (R3); the documented style — operator,
operands always separated by whitespace — is a special case. -/

theorem RExpr.sexp_ws1 {o : Op} {l r : Expr} {ot w0 w1 tl w2 tr w3 : List Char}
    (ho : ROp o ot) (h0 : Ws w0) (h1 : Ws1 w1) (hl : RExpr l tl) (h2 : Ws1 w2) (hr : RExpr r tr) (h3 : Ws w3)
    (hck : o = .bind ∨ isIfE l = false) :
    RExpr (.sexp o l r) ('(' :: (w0 ++ (ot ++ (w1 ++ (tl ++ (w2 ++ (tr ++ (w3 ++ [')'])))))))) :=
  .sexp ho h0 h1.1 hl h2.1 (.inl h2.2) hr h3 hck

theorem rexpr_sexp_ne_def {o : Op} {l r : Expr} {t : List Char} (h : RExpr (.sexp o l r) t) : o ≠ .def := by
  cases h with
  | sexp ho => exact opTable_ne_def _ ho

/-! ## Non-vacuity: concrete layouts

`Demo.demo_rprog` builds, from the constructors, a rendering derivation for `demoText`; `Demo.demo_parse` is then
an instance of `parse_render`. A derivation is elaborated without the text it is to render: tree and text are
compared once, by the kernel (`RProg.of_eq`). The kernel could evaluate these parses too, but then nothing would
show that `RProg` has these instances. -/

theorem RProg.of_eq {ds ds' : List Decl} {evs evs' : List Event} {t1 t2 text : List Char} (hd : RDefs ds' t1)
    (he : REvents evs' t2) (h : ds = ds' ∧ evs = evs' ∧ text = t1 ++ t2) : RProg ds evs text := by
  obtain ⟨rfl, rfl, rfl⟩ := h
  exact ⟨t1, t2, hd, he, rfl⟩

theorem stripNone_idem (evs : List Event) : stripNone (stripNone evs) = stripNone evs := by
  simp [stripNone, List.filter_filter]

namespace Demo

abbrev L (s : String) : List Char := s.toList

open Lean in
/-- `chars! "ab"` is the explicit list `['a', 'b']`: long texts written this way cost the kernel nothing
(evaluating `String.toList` on a long literal is slow) -/
macro "chars!" s:str : term => do
  let elems : Array (TSyntax `term) := (s.getString.toList.map fun c => (⟨Syntax.mkCharLit c⟩ : TSyntax `term)).toArray
  `([$elems,*])

/-! the constructors of the rendering relations, side conditions discharged by `decide` -/

theorem tt' : RExpr (.atom (.bool true)) (chars! "true") := .atom .tt
theorem ff' : RExpr (.atom (.bool false)) (L "false") := .atom .ff
theorem nm (s : List Char) (h : DocName s := by decide) : RExpr (.atom (.name s)) s := .atom (.name h)
theorem numA (s : List Char) (hne : s ≠ [] := by decide) (hd : ∀ c ∈ s, isAsciiDigit c = true := by decide)
    (hlt : digitsVal s < 2^64 := by decide) : RAtom (.num (digitsVal s)) s := .num hne hd hlt
theorem nu (s : List Char) (hne : s ≠ [] := by decide) (hd : ∀ c ∈ s, isAsciiDigit c = true := by decide)
    (hlt : digitsVal s < 2^64 := by decide) : RExpr (.atom (.num (digitsVal s))) s := .atom (numA s hne hd hlt)
theorem cm (c : Command) (w1 w2 : List Char) (h1 : Ws w1 := by decide) (h2 : Ws w2 := by decide) :
    RExpr (.cmd c) ('(' :: (w1 ++ (cmdText c ++ (w2 ++ [')'])))) := .cmd c h1 h2
theorem sx (o : Op) (w0 ot w1 : List Char) {l : Expr} {tl : List Char} (hl : RExpr l tl) (w2 : List Char)
    {r : Expr} {tr : List Char} (hr : RExpr r tr) (w3 : List Char)
    (ho : ROp o ot := by decide) (h0 : Ws w0 := by decide) (h1 : Ws w1 := by decide)
    (h2 : Ws w2 := by decide)
    (hsep : w2 ≠ [] ∨ isAtomE l = false ∨ isAtomE r = false := by decide) (h3 : Ws w3 := by decide)
    (hck : o = .bind ∨ isIfE l = false := by decide) :
    RExpr (.sexp o l r) ('(' :: (w0 ++ (ot ++ (w1 ++ (tl ++ (w2 ++ (tr ++ (w3 ++ [')'])))))))) :=
  .sexp ho h0 h1 hl h2 hsep hr h3 hck

theorem co (s : List Char) (h : ∀ c ∈ s, c ≠ '\n' := by decide) : RItem .none (commentLine s) := .comment h
theorem st {e : Expr} {t : List Char} (h : RExpr e t) (hn : isAtomE e = false := by decide) : RItem e t := .stmt h hn
theorem one {e : Expr} {t : List Char} (h : RItem e t) : RStmts [e] t := .one h
theorem more {e : Expr} {t : List Char} (h : RItem e t) (w : List Char) {es : List Expr} {ts : List Char}
    (hs : RStmts es ts) (hw : Ws w := by decide) : RStmts (e :: es) (t ++ (w ++ ts)) := .cons h hw hs

theorem ev (w0 w1 w2 : List Char) {c : Expr} {tc : List Char} (hc : RExpr c tc) (w3 : List Char) {b : List Expr}
    {tb : List Char} (hb : RStmts b tb) (w4 w5 : List Char)
    (h0 : Ws w0 := by decide) (h1 : Ws w1 := by decide) (h2 : Ws w2 := by decide)
    (h3 : Ws w3 := by decide) (h4 : Ws w4 := by decide) (h5 : Ws w5 := by decide) :
    REvent ⟨c, b⟩ (w0 ++ ('(' :: (w1 ++ ("when".toList ++ (w2 ++ (tc ++ (w3 ++ (tb ++ (w4 ++ (')' :: w5)))))))))) :=
  .mk h0 h1 h2 hc h3 hb h4 h5

theorem dc (v : Bool) (w0 w1 w2 x w3 : List Char) {p : Prim} {ta : List Char} (ha : RAtom p ta) (w4 w5 : List Char)
    (h0 : Ws w0 := by decide) (h1 : Ws w1 := by decide) (h2 : Ws w2 := by decide)
    (hx : DeclName x := by decide) (h3 : Ws w3 := by decide) (hp : isNamePrim p = false := by decide)
    (hsep : NoNameHead (w3 ++ ta) := by decide) (h4 : Ws w4 := by decide) (h5 : Ws w5 := by decide) :
    RDecl { vol := v, var := x, init := initTy (.atom p) }
      (w0 ++ ('(' :: (w1 ++ (volText v w2 ++ (x ++ (w3 ++ (ta ++ (w4 ++ (')' :: w5))))))))) :=
  .mk v h0 h1 h2 hx h3 hp ha hsep h4 h5

/-- a program text with tabs, CR/LF, comments, word and symbol spellings, leading zeros, `+infinity`,
a Report block with a volatile entry, a legacy `Report.` declaration, and juxtaposed statements -/
def demoText : List Char := chars!
  "(def (Report\r\n\t(volatile acked 0)\n\t(rtt +infinity))\n (cwnd 010) (Report.legacy false))\n# on every ack\n(when true\n\t# count bytes\n\t(:= Report.acked (add Report.acked Ack.bytes_acked))# trailing\r\n\t(fallthrough))\n(when (|| (> Micros 3000) (== Flow.was_timeout true))(report)( bind Micros 0 )\n)\n"

def demoDecls : List Decl :=
  [ { vol := true, var := L "Report.acked", init := .num (some 0) },
    { vol := false, var := L "Report.rtt", init := .num (some (2^64 - 1)) },
    { vol := false, var := L "cwnd", init := .num (some 10) },
    { vol := false, var := L "Report.legacy", init := .bool (some false) } ]

def demoEvents : List Event :=
  [ { flag := .atom (.bool true),
      body := [ .none,
                .sexp .bind (.atom (.name (L "Report.acked")))
                  (.sexp .add (.atom (.name (L "Report.acked"))) (.atom (.name (L "Ack.bytes_acked")))),
                .none,
                .cmd .fallthrough ] },
    { flag := .sexp .or (.sexp .gt (.atom (.name (L "Micros"))) (.atom (.num 3000)))
                        (.sexp .equiv (.atom (.name (L "Flow.was_timeout"))) (.atom (.bool true))),
      body := [ .cmd .report, .sexp .bind (.atom (.name (L "Micros"))) (.atom (.num 0)) ] } ]

/-! the tokens that occur more than once in the derivations below -/

def rAcked : List Char := chars! "Report.acked"
def rLegacy : List Char := chars! "Report.legacy"
def acked : List Char := chars! "acked"
def rtt : List Char := chars! "rtt"
def cwnd : List Char := chars! "cwnd"
def micros : List Char := chars! "Micros"
def bytesAcked : List Char := chars! "Ack.bytes_acked"
def wasTimeout : List Char := chars! "Flow.was_timeout"
def sBind : List Char := chars! ":="
def wBind : List Char := chars! "bind"
def wOr : List Char := chars! "or"
def wGt : List Char := chars! "gt"
def wEq : List Char := chars! "eq"
def n3000 : List Char := chars! "3000"
def n00 : List Char := chars! "00"
def n10 : List Char := chars! "10"
def nMax : List Char := chars! "18446744073709551615"
def nlTab : List Char := chars! "\n\t"

theorem demo_rprog : RProg demoDecls demoEvents demoText :=
  RProg.of_eq
    (RDefs.report (w0 := []) (t1 := []) (wr0 := [' ']) (wr1 := []) (wr2 := []) (wr3 := ['\n']) (w1 := ['\n']) (d1 := [])
      (by decide) .nil (by decide) (by decide)
      (.cons (dc true (chars! "\r\n\t") [] [' '] acked [' '] (numA ['0']) [] nlTab)
        (.cons (dc false [] [] [] rtt [' '] .inf [] []) .nil))
      (by simp) (by decide) (by decide)
      (.cons (dc false [' '] [] [] cwnd [' '] (numA (chars! "010")) [] [' '])
        (.cons (dc false [] [] [] rLegacy [' '] .ff [] []) .nil))
      (by decide))
    (.cons
      (.commented (w := []) (text := chars! " on every ack") (by decide) (by decide)
        (ev [] [] [' '] tt' nlTab
          (more (co (chars! " count bytes")) ['\t']
            (more (st (sx .bind [] sBind [' '] (nm rAcked) [' ']
                        (sx .add [] (chars! "add") [' '] (nm rAcked) [' '] (nm bytesAcked) []) [])) []
              (more (co (chars! " trailing\r")) ['\t']
                (one (st (cm .fallthrough [] []))))))
          [] ['\n']))
      (.one (.plain
        (ev [] [] [' ']
          (sx .or [] (chars! "||") [' '] (sx .gt [] ['>'] [' '] (nm micros) [' '] (nu n3000) []) [' ']
            (sx .equiv [] (chars! "==") [' '] (nm wasTimeout) [' '] tt' []) [])
          []
          (more (st (cm .report [] [])) []
            (one (st (sx .bind [' '] wBind [' '] (nm micros) [' '] (nu ['0']) [' ']))))
          ['\n'] ['\n']))))
    (by decide +kernel)

/-- the parse of the demo text, obtained from the theorem (not by evaluation) -/
theorem demo_parse : parseSource demoText = some (demoDecls, desugarEvents demoEvents) :=
  parse_render demo_rprog

-- the same fact, by running the parser (a test of the executable parser, not a theorem)
#guard parseSource demoText == some (demoDecls, desugarEvents demoEvents)


/-! A second layout of the same program: one line, the other spellings, no optional whitespace, other
numerals (`00`, `18446744073709551615`), empty comments at the same positions. -/

def demoText2 : List Char := chars!
  "(def(Report(volatile acked 00)(rtt 18446744073709551615))(cwnd 10)(Report.legacy false))#x\n(when true#\n(bind Report.acked(+ Report.acked Ack.bytes_acked))#\n(fallthrough))(when(or(gt Micros 3000)(eq Flow.was_timeout true))( report )(:= Micros 0))"

/-! The same program without any comment: the bodies lose their `Expr.none` items and nothing else. -/

def demoText3 : List Char := chars!
  "(def(Report(volatile acked 00)(rtt 18446744073709551615))(cwnd 10)(Report.legacy false))(when true(bind Report.acked(+ Report.acked Ack.bytes_acked))(fallthrough))(when(or(gt Micros 3000)(eq Flow.was_timeout true))( report )(:= Micros 0))"

/-- the two compact layouts share the definition block and the last event, text and derivation -/
theorem demo_rprog23 : RProg demoDecls demoEvents demoText2 ∧ RProg demoDecls (stripNone demoEvents) demoText3 := by
  have hdefs :=
    RDefs.report (w0 := []) (t1 := []) (wr0 := []) (wr1 := []) (wr2 := []) (wr3 := []) (w1 := []) (d1 := [])
      (by decide) .nil (by decide) (by decide)
      (.cons (dc true [] [] [' '] acked [' '] (numA n00) [] [])
        (.cons (dc false [] [] [] rtt [' '] (numA nMax) [] []) .nil))
      (by simp) (by decide) (by decide)
      (.cons (dc false [] [] [] cwnd [' '] (numA n10) [] [])
        (.cons (dc false [] [] [] rLegacy [' '] .ff [] []) .nil))
      (by decide)
  have hlast :=
    REvents.one (.plain
      (ev [] [] []
        (sx .or [] wOr [] (sx .gt [] wGt [' '] (nm micros) [' '] (nu n3000) []) []
          (sx .equiv [] wEq [' '] (nm wasTimeout) [' '] tt' []) [])
        []
        (more (st (cm .report [' '] [' '])) []
          (one (st (sx .bind [] sBind [' '] (nm micros) [' '] (nu ['0']) []))))
        [] []))
  have hbind := st (sx .bind [] wBind [' '] (nm rAcked) []
    (sx .add [] ['+'] [' '] (nm rAcked) [' '] (nm bytesAcked) []) [])
  constructor
  · exact RProg.of_eq hdefs
      (.cons
        (.commented (w := []) (text := ['x']) (by decide) (by decide)
          (ev [] [] [' '] tt' []
            (more (co []) [] (more hbind [] (more (co []) [] (one (st (cm .fallthrough [] []))))))
            [] []))
        hlast)
      (by decide +kernel)
  · exact RProg.of_eq hdefs
      (.cons (.plain (ev [] [] [' '] tt' [] (more hbind [] (one (st (cm .fallthrough [] [])))) [] [])) hlast)
      (by decide +kernel)

theorem demo_same_parse : parseSource demoText = parseSource demoText2 :=
  layout_independent demo_rprog demo_rprog23.1

#guard parseSource demoText2 == some (demoDecls, desugarEvents demoEvents)

theorem demo_comments : ∃ p p', parseSource demoText = some (demoDecls, p) ∧
    parseSource demoText3 = some (demoDecls, p') ∧ stripNone p = stripNone p' :=
  comments_only_add_none demo_rprog demo_rprog23.2 (stripNone_idem demoEvents).symm

#guard parseSource demoText3 == some (demoDecls, desugarEvents (stripNone demoEvents))


/-! ### The parser quirks behind the restrictions of the relation (compiler-evaluated tests, not theorems) -/

-- R6: the empty definition block is exactly `(def)`; no whitespace between `(` and `def`
#guard (parseSource (chars! "(def)(when true (report))")).isSome
#guard parseSource (chars! "(def )(when true (report))") == none
#guard parseSource (chars! "( def)(when true (report))") == none
#guard (parseSource (chars! "(def (x 0) )(when true (report))")).isSome
-- R5: a comment needs its newline, also as the last item of a body; no comment after the last event
#guard (parseSource (chars! "(def)(when true (report) # c\n)")).isSome
#guard parseSource (chars! "(def)(when true (report) # c)") == none
#guard parseSource (chars! "(def)(when true (report))# c\n") == none
-- exactly one comment line in front of an event
#guard (parseSource (chars! "(def)#a\n(when true (report))")).isSome
#guard parseSource (chars! "(def)#a\n#b\n(when true (report))") == none
-- R1: `truex` is split into `true` and `x`; `1x` into `1` and `x`
#guard parseSource (chars! "(def)(when truex (report))") ==
  parseSource (chars! "(def)(when true x (report))")
#guard parseSource (chars! "(def)(when (> 1x 0) (report))") == none
-- R2: `(volatilex 0)` declares a volatile `x`
#guard parseSource (chars! "(def (volatilex 0))(when true (report))") ==
  parseSource (chars! "(def (volatile x 0))(when true (report))")
-- R3: adjacent atoms run together
#guard parseSource (chars! "(def)(when true (:= x1 2))") != parseSource (chars! "(def)(when true (:= x 12))")
#guard parseSource (chars! "(def (x0))(when true (report))") == none
-- R4: bare atoms in a body run together without a separator
#guard parseSource (chars! "(def)(when true xy)") != parseSource (chars! "(def)(when true x y)")
-- comments are not allowed inside an s-expression
#guard parseSource (chars! "(def)(when true (+ 1 #c\n 2))") == none

end Demo
end Portus.Lang
