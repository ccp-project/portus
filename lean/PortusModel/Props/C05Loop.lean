import PortusModel.Props.C05History
/-!
# C05 — from message histories to the receive loop

`install_before_use` (Props/C05History) is about `step` folded over a sequence of decoded messages. This file ties
that sequence to the loop model `runLoop` (receive path `Backend.next` + dispatch): the messages the backend yields
in a run, with the script items `recv` passed over before each, form a history (`yielded`) whose `runHistSf` run
transmits exactly what the loop transmits, in the same order (`loop_tx_eq_hist_tx`, an instance of `loop_eq_hist`).
Hence every transmission of the loop is a transmission of a history for which `InstallBeforeUse` holds.
-/
namespace Portus.C05
open Portus Portus.Wire Portus.Ipc Portus.Rt

/-- the transmissions (successful or failed) of a trace, in order -/
def txOnly (evs : List Ev) : List Ev :=
  evs.filter fun e => match e with | .tx _ _ => true | .txFail _ => true | _ => false

@[simp] theorem txOnly_nil : txOnly [] = [] := rfl

/-- the messages `b.next()` yields during a run of the loop, each with the script items `recv` passed over before it -/
def yielded {σ : Type} (cfg : Cfg) (pol : Policy σ) : Nat → Backend → List Rx → St σ → List (List Rx × Addr × Msg)
  | 0, _, _, _ => []
  | fuel + 1, b, rx, st =>
    match next b rx with
    | .ok (some (msg, addr), b', rx') =>
      match step cfg pol (applySf st (rx.take (rx.length - rx'.length))) addr msg with
      | .ok (.cont st' _) => (rx.take (rx.length - rx'.length), addr, msg) :: yielded cfg pol fuel b' rx' st'
      | .ok (.fail _ _) => [(rx.take (rx.length - rx'.length), addr, msg)]
      | _ => []
    | _ => []

theorem filter_rxEvents_eq_nil (q : Ev → Bool) (hrx : ∀ a n, q (.rx a n) = false) (l : List Rx) : (rxEvents l).filter q = [] := by
  induction l with
  | nil => rfl
  | cons x r ih => cases x <;> simp [rxEvents, ih, hrx]

theorem filter_dropAll_eq_nil {σ : Type} (q : Ev → Bool) (hd : ∀ n, q (.dropped n) = false) (fm : List (Nat × Flow σ)) :
    (dropAll fm).filter q = [] :=
  List.filter_eq_nil_iff.mpr (List.forall_mem_map.mpr fun n _ => Bool.eq_false_iff.mp (hd n))

/-- **A run that returns, one trip unrolled.** Either `next` yielded nothing and the trace ends with the drops at
shutdown, or a message was dispatched: the run goes on from the new state, or (a failed install send) ends there. -/
theorem runLoop_succ_ok {σ : Type} {cfg : Cfg} {pol : Policy σ} {fuel : Nat} {b : Backend} {rx : List Rx} {st : St σ}
    {acc tr : List Ev} {r : Res} (h : runLoop cfg pol (fuel + 1) b rx st acc = .ok (tr, r)) :
    ∃ o b' rx', next b rx = .ok (o, b', rx') ∧
      match o with
      | none => tr = acc ++ rxEvents (rx.take (rx.length - rx'.length)) ++ shutdown st
      | some (msg, addr) =>
        ∃ sr, step cfg pol (applySf st (rx.take (rx.length - rx'.length))) addr msg = .ok sr ∧
          match sr with
          | .cont st' evs =>
            runLoop cfg pol fuel b' rx' st' (acc ++ (rxEvents (rx.take (rx.length - rx'.length)) ++ evs)) = .ok (tr, r)
          | .fail st' evs =>
            tr = acc ++ (rxEvents (rx.take (rx.length - rx'.length)) ++ evs) ++ shutdown st' := by
  unfold runLoop loopStep at h
  cases hn : next b rx with
  | panic | err => rw [hn] at h; cases h
  | ok y =>
    obtain ⟨o, b', rx'⟩ := y
    rw [hn] at h
    refine ⟨o, b', rx', rfl, ?_⟩
    rcases o with _ | ⟨msg, addr⟩
    · simp only [Out.ok.injEq, Prod.mk.injEq] at h
      exact h.1.symm
    · simp only at h ⊢
      cases hs : step cfg pol (applySf st (rx.take (rx.length - rx'.length))) addr msg with
      | panic | err => rw [hs] at h; cases h
      | ok sr =>
        rw [hs] at h
        refine ⟨sr, rfl, ?_⟩
        cases sr with
        | cont st' evs => exact h
        | fail st' evs =>
          simp only [Out.ok.injEq, Prod.mk.injEq] at h
          exact h.1.symm
/-- **The loop emits what the history of yielded messages emits**, through any filter `q` that does not see the
receptions (`rx`) or the drops (the loop also drops the flows alive at shutdown, which no input causes). `yielded`
branches on `next` and `step` as `runLoop` does, so case by case both sides unfold to the same events. -/
theorem loop_eq_hist (q : Ev → Bool) (hrx : ∀ a n, q (.rx a n) = false) (hd : ∀ n, q (.dropped n) = false)
    {σ : Type} (cfg : Cfg) (pol : Policy σ) (fuel : Nat) (b : Backend) (rx : List Rx)
    (st : St σ) (acc : List Ev) (tr : List Ev) (r : Res)
    (h : runLoop cfg pol fuel b rx st acc = .ok (tr, r)) :
    tr.filter q = acc.filter q ++
      ((runHistSf cfg pol st (yielded cfg pol fuel b rx st)).flatMap fun x => x.2.2).filter q := by
  have hsh : ∀ st : St σ, (shutdown st).filter q = [] := fun st => filter_dropAll_eq_nil q hd _
  induction fuel generalizing b rx st acc with
  | zero =>
    simp only [runLoop, Out.ok.injEq, Prod.mk.injEq] at h
    obtain ⟨rfl, _⟩ := h
    simp only [List.filter_append, hsh, List.append_nil, yielded, runHistSf, List.flatMap_nil, List.filter_nil]
  | succ fuel ih =>
    obtain ⟨o, b', rx', hn, h⟩ := runLoop_succ_ok h
    rcases o with _ | ⟨msg, addr⟩
    · subst h
      simp only [List.append_assoc, List.filter_append, filter_rxEvents_eq_nil q hrx, hsh, List.append_nil, yielded,
        hn, runHistSf, List.flatMap_nil, List.filter_nil]
    · obtain ⟨sr, hs, h⟩ := h
      rcases sr with ⟨st', evs⟩ | ⟨st', evs⟩
      · rw [ih b' rx' st' _ h]
        simp only [List.filter_append, filter_rxEvents_eq_nil q hrx, List.nil_append, List.append_assoc, yielded, hn,
          hs, runHistSf, List.flatMap_cons]
      · subst h
        simp only [List.append_assoc, List.filter_append, filter_rxEvents_eq_nil q hrx, hsh, List.append_nil,
          List.nil_append, yielded, hn, hs, runHistSf, List.flatMap_cons, List.flatMap_nil]

theorem loop_tx_eq_hist_tx {σ : Type} (cfg : Cfg) (pol : Policy σ) (fuel : Nat) (b : Backend) (rx : List Rx)
    (st : St σ) (acc : List Ev) (tr : List Ev) (r : Res)
    (h : runLoop cfg pol fuel b rx st acc = .ok (tr, r)) :
    txOnly tr = txOnly acc ++
      txOnly ((runHistSf cfg pol st (yielded cfg pol fuel b rx st)).flatMap fun x => x.2.2) :=
  loop_eq_hist _ (fun _ _ => rfl) (fun _ => rfl) cfg pol fuel b rx st acc tr r h

/-- the history of yielded messages satisfies install-before-use (C05History) -/
theorem loop_history_install_before_use {σ : Type} (cfg : Cfg) (pol : Policy σ) (hb : pol.Bounded) (fuel : Nat)
    (b : Backend) (rx : List Rx) (sf : Nat) :
    installedOk cfg (runHistSf cfg pol { (St.init : St σ) with sendFail := sf }
      (yielded cfg pol fuel b rx { (St.init : St σ) with sendFail := sf })) = true :=
  install_before_use_sf cfg pol hb sf _

end Portus.C05
