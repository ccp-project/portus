import PortusModel.Lemmas.CompileInv
import PortusModel.Lemmas.Ctl
/-!
# Invariants behind C03 (shape of the compiled image)

* `Shape`: the instruction list of a compiled expression is self-contained w.r.t. temporaries
  (`ReadsOk`), contains no `Def`, writes only writable classes (or the `None` placeholder);
* the flag block ends in a write of the event-flag register, `compileEvents` tiles the instruction stream;
* the link between the IR predicates and libccp's records, over `instrsMatch` of `Lemmas/Ctl`.
-/
namespace Portus.C03
open Portus Portus.Lang

def writable : Reg → Bool
  | .tmp .. => true
  | .implicit .. => true
  | .local .. => true
  | .report .. => true
  | .control .. => true
  | _ => false

def writesTmp (i : Instr) (j : Nat) : Prop := ∃ t, i.res = .tmp j t
def readsTmp (i : Instr) (j : Nat) : Prop := (∃ t, i.left = .tmp j t) ∨ (∃ t, i.right = .tmp j t)

/-- every read of a temporary is preceded, in the same list, by a write of that temporary -/
def ReadsOk (is : List Instr) : Prop :=
  ∀ a i b, is = a ++ i :: b → ∀ j, readsTmp i j → ∃ w ∈ a, writesTmp w j

/-- the `None` result placeholder is still allowed here; `Instr.clean` of `CompileInv` removes it at the end -/
def InstrOk (i : Instr) : Prop :=
  i.op ≠ .def ∧ (i.res = .none ∨ writable i.res = true) ∧ primOk i.left = true ∧ primOk i.right = true

/-- the event records tile `[start, stop)` contiguously and in order -/
def Tiles : Nat → List EvRec → Nat → Prop
  | start, [], stop => start = stop
  | start, e :: es, stop =>
    e.flagIdx = start ∧ e.bodyIdx = start + e.numFlag ∧ Tiles (e.bodyIdx + e.numBody) es stop

theorem ReadsOk_nil : ReadsOk [] := by
  intro a i b h; simp at h

theorem ReadsOk_append {x y : List Instr} (hx : ReadsOk x) (hy : ReadsOk y) : ReadsOk (x ++ y) := by
  intro a i b h j hr
  rcases List.append_eq_append_iff.mp h with ⟨a', ha, hy'⟩ | ⟨c', hx', hc⟩
  · obtain ⟨w, hw, hwj⟩ := hy a' i b hy' j hr
    exact ⟨w, by rw [ha]; simp [hw], hwj⟩
  · cases c' with
    | nil =>
      simp only [List.nil_append] at hc
      obtain ⟨w, hw, hwj⟩ := hy [] i b (by simpa using hc.symm) j hr
      simp at hw
    | cons c cs =>
      simp only [List.cons_append, List.cons.injEq] at hc
      obtain ⟨rfl, _⟩ := hc
      exact hx a i cs hx' j hr

theorem ReadsOk_snoc {x : List Instr} {i : Instr} (hx : ReadsOk x)
    (hi : ∀ j, readsTmp i j → ∃ w ∈ x, writesTmp w j) : ReadsOk (x ++ [i]) := by
  intro a i' b h j hr
  rcases List.eq_nil_or_concat b with rfl | ⟨b', l, rfl⟩
  · have h' : x ++ [i] = a ++ [i'] := h
    obtain ⟨rfl, h2⟩ := List.append_inj' h' rfl
    simp only [List.cons.injEq, and_true] at h2
    subst h2
    exact hi j hr
  · rw [List.concat_eq_append, ← List.cons_append, ← List.append_assoc] at h
    obtain ⟨h1, _⟩ := List.append_inj' h rfl
    exact hx a i' b' h1 j hr

theorem ReadsOk_flatten {bs : List (List Instr)} (h : ∀ b ∈ bs, ReadsOk b) : ReadsOk bs.flatten := by
  induction bs with
  | nil => exact ReadsOk_nil
  | cons b rest ih =>
    simp only [List.flatten_cons]
    exact ReadsOk_append (h b (by simp)) (ih (fun x hx => h x (by simp [hx])))

theorem ReadsOk_setLastRes {is : List Instr} (h : ReadsOk is) (r : Reg) : ReadsOk (setLastRes is r) := by
  rcases List.eq_nil_or_concat is with rfl | ⟨pre, last, rfl⟩
  · simpa [setLastRes] using ReadsOk_nil
  · rw [List.concat_eq_append] at h ⊢
    rw [setLastRes_append]
    have hpre : ReadsOk pre := by
      intro a i b hs j hr
      exact h a i (b ++ [last]) (by rw [hs]; simp) j hr
    refine ReadsOk_snoc hpre ?_
    intro j hr
    exact h pre last [] rfl j hr

/-- the invariant of `compile_expr`'s result behind C03: the code is self-contained w.r.t. temporaries, a result that is
a temporary is written by it, and primitives keep the indices of `Scope::new` -/
structure Shape (c : CE) : Prop where
  reads : ReadsOk c.instrs
  ok : ∀ i ∈ c.instrs, InstrOk i
  reg : ∀ j t, c.reg = .tmp j t → ∃ w ∈ c.instrs, writesTmp w j
  prim : primOk c.reg = true

theorem Shape.sc {c : CE} (h : Shape c) (sc : Scope) : Shape { c with sc := sc } := ⟨h.reads, h.ok, h.reg, h.prim⟩

theorem compileAtom_shape {p : Prim} {sc : Scope} {c : CE} (hs : ScInv sc) (h : compileAtom p sc = .ok c) :
    Shape c := by
  obtain ⟨hi, -, ht, hp⟩ := compileAtom_reg hs h
  refine ⟨?_, ?_, fun j t e => absurd e (ht j t), hp⟩ <;> rw [hi]
  · exact ReadsOk_nil
  · exact fun _ h => nomatch h

/-- one instruction behind the code of both operands: its left operand is written by the left code if a temporary,
its right operand is the right result, and the new result register, if a temporary, is what it writes -/
theorem Shape_snoc {l r : CE} {left res reg : Reg} {o : Op} {sc : Scope} (hl : Shape l) (hr : Shape r)
    (hleft : ∀ j t, left = .tmp j t → ∃ w ∈ l.instrs, writesTmp w j) (hlp : primOk left = true)
    (ho : o ≠ .def) (hres : res = .none ∨ writable res = true)
    (hreg : ∀ j t, reg = .tmp j t → res = .tmp j t) (hrp : primOk reg = true) :
    Shape ⟨l.instrs ++ r.instrs ++ [{ res := res, op := o, left := left, right := r.reg }], reg, sc⟩ := by
  refine ⟨?_, ?_, ?_, hrp⟩
  · refine ReadsOk_snoc (ReadsOk_append hl.reads hr.reads) fun j hj => ?_
    rcases hj with ⟨t, ht⟩ | ⟨t, ht⟩
    · obtain ⟨w, hw, hwj⟩ := hleft j t ht
      exact ⟨w, List.mem_append_left _ hw, hwj⟩
    · obtain ⟨w, hw, hwj⟩ := hr.reg j t ht
      exact ⟨w, List.mem_append_right _ hw, hwj⟩
  · exact forall_snoc (forall_append hl.ok hr.ok) ⟨ho, hres, hlp, hr.prim⟩
  · intro j t e
    exact ⟨{ res := res, op := o, left := left, right := r.reg }, by simp, t, hreg j t e⟩

theorem writable_of_RC_TIL {r : Reg} (h : (isRC r || isTIL r) = true) : writable r = true := by
  cases r <;> simp [isRC, isTIL, writable] at *

theorem isRC_facts {r : Reg} (h : isRC r = true) :
    (∀ j t, r ≠ .tmp j t) ∧ primOk r = true ∧ writable r = true := by
  cases r <;> simp [isRC, primOk, writable] at *

theorem instrOk_setLastRes {is : List Instr} {r : Reg} (h : ∀ i ∈ is, InstrOk i) (hr : writable r = true) :
    ∀ i ∈ setLastRes is r, InstrOk i :=
  forall_setLastRes h fun _ g => ⟨g.1, .inr hr, g.2.2⟩

theorem combine_shape {o : Op} {l r c : CE} (hl : Shape l) (hr : Shape r)
    (h : combine o (l.instrs ++ r.instrs) l.reg r.reg r.sc = .ok c) : Shape c := by
  rcases combine_inv h with ⟨ty, t, hk, -, -, rfl⟩ | ⟨-, hb⟩ | ⟨hk, -, -, rfl⟩
  · exact Shape_snoc hl hr hl.reg hl.prim (Op.kind_pure hk).2.2.1 (.inr rfl) (fun _ _ e => e) rfl
  · obtain ⟨hq, hc⟩ := combineBind_inv hb
    obtain ⟨is, reg, sc'⟩ := c
    -- the target is the left operand, or what `update_type` returns: a report, control or local register
    have hleft : (∀ j t, reg = .tmp j t → ∃ w ∈ l.instrs, writesTmp w j) ∧ primOk reg = true := by
      rcases bindTarget_ok hq with ⟨e1, -⟩ | ⟨s, r0, -, -, -, hty, -⟩
      · cases e1; exact ⟨hl.reg, hl.prim⟩
      · cases r0 <;> simp only [Reg.setTy, Option.some.injEq, reduceCtorEq] at hty <;> cases hty <;>
          exact ⟨nofun, rfl⟩
    rcases hc with ⟨-, hrc, pre, last, e, -, hi⟩ | ⟨-, hm, hi⟩
    · obtain ⟨f1, f2, f3⟩ := isRC_facts hrc
      simp only at hi; subst hi
      rw [← setLastRes_append, ← e]
      exact ⟨ReadsOk_setLastRes (ReadsOk_append hl.reads hr.reads) _, instrOk_setLastRes (forall_append hl.ok hr.ok) f3,
        fun j t e => absurd e (f1 j t), f2⟩
    · simp only at hi; subst hi
      exact Shape_snoc hl hr hleft.1 hleft.2 nofun (.inr (writable_of_RC_TIL hm)) (fun _ _ e => e) hleft.2
  · exact Shape_snoc hl hr hl.reg hl.prim (Op.kind_guard hk).2.2 (.inl rfl) nofun rfl

theorem compileExpr_shape {e : Expr} {sc : Scope} {c : CE} (hs : ScInv sc) (h : compileExpr e sc = .ok c) :
    Shape c :=
  compileExpr_ind (I := ScInv) Reach.scInv (fun _ hg => hg.sc _) compileAtom_shape
    (fun _ hl hr h => combine_shape (hl.sc _) hr h) hs h

theorem Block.shape {sc sc1 : Scope} {b : List Instr} (hs : ScInv sc) (h : Block sc b sc1) :
    ReadsOk b ∧ ∀ i ∈ b, InstrOk i := by
  have hs' := hs.clearTmps
  cases h with
  | flagTmp hc _ _ hg =>
    have g := compileExpr_shape hs' hc
    rw [(hs.of_top hc).flag] at hg
    cases hg
    exact ⟨ReadsOk_setLastRes g.reads _, instrOk_setLastRes g.ok rfl⟩
  | @flagImm _ c _ hc hb hg =>
    have g := compileExpr_shape hs' hc
    rw [(hs.of_top hc).flag] at hg
    cases hg
    obtain ⟨b, hb⟩ := hb
    refine ⟨ReadsOk_snoc g.reads fun j hj => ?_, forall_snoc g.ok ⟨nofun, .inr rfl, rfl, by rw [hb]; rfl⟩⟩
    rcases hj with ⟨t, ht⟩ | ⟨t, ht⟩
    · cases ht
    · rw [hb] at ht; cases ht
  | stmt hc => exact ⟨(compileExpr_shape hs' hc).reads, (compileExpr_shape hs' hc).ok⟩

theorem Blocks.shape {sc sc' : Scope} {bs : List (List Instr)} (hs : ScInv sc) (h : Blocks sc bs sc') :
    ∀ b ∈ bs, ReadsOk b ∧ ∀ i ∈ b, InstrOk i :=
  h.forall (B := fun _ b => ReadsOk b ∧ ∀ i ∈ b, InstrOk i) Reach.scInv (fun _ hb => hb) Block.shape hs

theorem compileFlag_end {f : Expr} {sc sc' : Scope} {is : List Instr} (hs : ScInv sc)
    (h : compileFlag f sc = .ok (is, sc')) : ∃ pre last, is = pre ++ [last] ∧ last.res = flagReg := by
  obtain ⟨c, fr, hc, hg, -, ⟨-, hne, rfl⟩ | ⟨-, rfl⟩⟩ := compileFlag_ok h
  all_goals
    rw [(hs.of_top hc).flag] at hg
    cases hg
  · rcases List.eq_nil_or_concat c.instrs with e | ⟨pre, last, e⟩
    · exact absurd e hne
    · rw [e, List.concat_eq_append, setLastRes_append]
      exact ⟨pre, _, rfl, rfl⟩
  · exact ⟨_, _, rfl, rfl⟩

/-- what the image guarantees about one event record, relative to the whole instruction list `all` -/
def EvOk (all : List Instr) (e : EvRec) : Prop :=
  1 ≤ e.numFlag ∧ (∃ i t, all[e.bodyIdx - 1]? = some i ∧ i.res = .implicit 0 t) ∧
  ReadsOk ((all.drop e.flagIdx).take e.numFlag) ∧ ReadsOk ((all.drop e.bodyIdx).take e.numBody)

theorem compileEvents_tiles {evs : List Event} {idx : Nat} {sc : Scope} {cp : CP} (hs : ScInv sc)
    (h : compileEvents evs idx sc = .ok cp) :
    cp.events.length = evs.length ∧ Tiles idx cp.events (idx + cp.instrs.length) ∧
    ∀ pre : List Instr, pre.length = idx → ∀ e ∈ cp.events, EvOk (pre ++ cp.instrs) e := by
  induction evs generalizing idx sc cp with
  | nil => cases h; exact ⟨rfl, rfl, fun _ _ _ he => nomatch he⟩
  | cons ev rest ih =>
    obtain ⟨fi, sc1, bi, sc2, tail, h1, h2, h3, rfl⟩ := compileEvents_cons_ok h
    have s1 := (Reach.of_compileFlag h1).scInv hs
    have s2 := (Reach.of_compileBody h2).scInv s1
    obtain ⟨tl, tt, te⟩ := ih s2 h3
    obtain ⟨fpre, flast, ffi, fres⟩ := compileFlag_end hs h1
    have fr : ReadsOk fi := (Block.shape hs (compileFlag_block h1)).1
    have br : ReadsOk bi := by
      obtain ⟨bb, rfl, hbb, -⟩ := compileBody_blocks h2
      exact ReadsOk_flatten fun b hb => (Blocks.shape s1 hbb b hb).1
    refine ⟨by simp only [List.length_cons, tl], ⟨rfl, rfl, ?_⟩, fun pre hpre e hein => ?_⟩
    · have e : idx + fi.length + bi.length + tail.instrs.length
          = idx + (fi ++ bi ++ tail.instrs).length := by simp only [List.length_append]; omega
      rw [← e]; exact tt
    · rcases List.mem_cons.mp hein with rfl | hein
      · refine ⟨by rw [ffi]; simp, ⟨flast, .bool none, ?_, fres⟩, ?_, ?_⟩
        · have e1 : pre ++ (fi ++ bi ++ tail.instrs) = (pre ++ fpre) ++ (flast :: (bi ++ tail.instrs)) := by
            rw [ffi]; simp
          have e2 : idx + fi.length - 1 = (pre ++ fpre).length := by rw [ffi]; simp [hpre]
          show (pre ++ (fi ++ bi ++ tail.instrs))[idx + fi.length - 1]? = some flast
          rw [e1, e2, List.getElem?_append_right (Nat.le_refl _)]
          simp
        · show ReadsOk (((pre ++ (fi ++ bi ++ tail.instrs)).drop idx).take fi.length)
          rw [List.append_assoc, List.drop_left' hpre, List.take_left' rfl]
          exact fr
        · show ReadsOk (((pre ++ (fi ++ bi ++ tail.instrs)).drop (idx + fi.length)).take bi.length)
          have e1 : pre ++ (fi ++ bi ++ tail.instrs) = (pre ++ fi) ++ (bi ++ tail.instrs) := by simp
          rw [e1, List.drop_left' (by simp [hpre]), List.take_left' rfl]
          exact br
      · have := te (pre ++ fi ++ bi) (by simp [hpre]; omega) e hein
        rwa [show pre ++ fi ++ bi ++ tail.instrs = pre ++ (fi ++ bi ++ tail.instrs) by simp] at this

def IsDefI (i : Instr) : Prop :=
  i.op = .def ∧ i.left = i.res ∧ isRC i.res = true ∧ ((∃ n, i.right = .immNum n) ∨ ∃ b, i.right = .immBool b)

theorem defInstrs_isDef (l : List (Name × Reg)) : ∀ i ∈ defInstrs l, IsDefI i := by
  intro i hi
  obtain ⟨-, reg, -, hrc, ⟨n, -, rfl⟩ | ⟨b, -, rfl⟩⟩ := defInstrs_shape hi
  · exact ⟨rfl, rfl, hrc, .inl ⟨n, rfl⟩⟩
  · exact ⟨rfl, rfl, hrc, .inr ⟨b, rfl⟩⟩

theorem compileProg_shape {evs : List Event} {sc sc' : Scope} {bin : Bin} (hs : ScInv sc)
    (h : compileProg evs sc = .ok (bin, sc')) :
    ∃ blocks : List (List Instr), bin.instrs = defInstrs sc.named ++ blocks.flatten ∧
      (∀ b ∈ blocks, ReadsOk b ∧ ∀ i ∈ b, InstrOk i) ∧ blocks.length = blockCount evs ∧
      bin.events.length = evs.length ∧
      Tiles (defInstrs sc.named).length bin.events bin.instrs.length ∧
      ∀ e ∈ bin.events, EvOk bin.instrs e := by
  obtain ⟨bs, e, hbs, l⟩ := compileProg_blocks h
  obtain ⟨cp, hcp, rfl, rfl⟩ := compileProg_ok h
  obtain ⟨tl, tt, te⟩ := compileEvents_tiles hs hcp
  exact ⟨bs, e, Blocks.shape hs hbs, l, tl, by simpa using tt, te _ rfl⟩

/-! ## record-level checks: the components of the byte-level oracle `C03.wfRecs`

These look only at what libccp reads from the image (`Libccp.InstrMsg`, `Libccp.Expr`). -/

open Portus.Wire

/-- class and index of one register field: class `≤ 8` and the index inside the register file of
that class (0/8 control: 16; 1 immediate: any; 2 implicit: 6; 3 local: 6; 4 primitive: 15;
5/6 report: 16; 7 temporary: 8) -/
def regOkB (c i : Nat) : Bool :=
  match c with
  | 0 => i < 16
  | 1 => true
  | 2 => i < 6
  | 3 => i < 6
  | 4 => i < 15
  | 5 => i < 16
  | 6 => i < 16
  | 7 => i < 8
  | 8 => i < 16
  | _ => false

/-- classes an instruction may write: control (0, 8), implicit 2, local 3, report (5, 6), temporary 7 -/
def resClassB (c : Nat) : Bool := c == 0 || c == 2 || c == 3 || c == 5 || c == 6 || c == 7 || c == 8

def instrOkB (m : Libccp.InstrMsg) : Bool :=
  decide (m.opcode < 15) && resClassB m.resT && regOkB m.resT m.resI && regOkB m.leftT m.leftI &&
  regOkB m.rightT m.rightI

/-- temporaries read (class 7 operands) must be in `seen`; a class-7 result is added to `seen` -/
def readsOkFrom (seen : List Nat) : List Libccp.InstrMsg → Bool
  | [] => true
  | m :: ms =>
    (m.leftT != 7 || seen.contains m.leftI) && (m.rightT != 7 || seen.contains m.rightI) &&
    readsOkFrom (if m.resT == 7 then m.resI :: seen else seen) ms

def tilesB : Nat → List Libccp.Expr → Nat → Bool
  | start, [], stop => start == stop
  | start, e :: es, stop =>
    e.condStart == start && e.eventStart == start + e.numCond && tilesB (e.eventStart + e.numEvent) es stop

def evOkB (ms : List Libccp.InstrMsg) (e : Libccp.Expr) : Bool :=
  decide (1 ≤ e.numCond) &&
  (match ms[e.eventStart - 1]? with
   | some m => m.resT == 2 && m.resI == 0
   | none => false) &&
  readsOkFrom [] ((ms.drop e.condStart).take e.numCond) &&
  readsOkFrom [] ((ms.drop e.eventStart).take e.numEvent)

/-- the record libccp reads for an instruction the encoder accepts -/
def instrMsg? (i : Instr) : Option Libccp.InstrMsg :=
  match serializeOp i.op, i.res.classIdx, i.left.classIdx, i.right.classIdx with
  | .ok o, .ok (c1, i1), .ok (c2, i2), .ok (c3, i3) => some ⟨o, c1, i1, c2, i2, c3, i3⟩
  | _, _, _, _ => none

theorem classIdx_regOk {r : Reg} {c i : Nat} (h : r.classIdx = .ok (c, i)) (hp : primOk r = true) :
    regOkB c i = true := by
  cases r <;> simp only [classIdx_control, classIdx_report, classIdx_implicit, classIdx_local, classIdx_primitive,
    classIdx_tmp, classIdx_immBool, classIdx_immNum, classIdx_none] at h <;>
    (try split at h) <;> simp_all [regOkB, primOk] <;> omega

theorem writable_primOk {r : Reg} (h : writable r = true) : primOk r = true := by
  cases r <;> simp [writable, primOk] at *

theorem classIdx_writable {r : Reg} {c i : Nat} (h : r.classIdx = .ok (c, i)) (hw : writable r = true) :
    resClassB c = true := by
  cases r <;> simp only [classIdx_control, classIdx_report, classIdx_implicit, classIdx_local, classIdx_primitive,
    classIdx_tmp, classIdx_immBool, classIdx_immNum, classIdx_none, writable, reduceCtorEq] at h hw <;>
    (try split at h) <;> simp_all [resClassB]

theorem classIdx_eq7 {r : Reg} {i : Nat} (h : r.classIdx = .ok (7, i)) : ∃ t, r = .tmp i t := by
  cases r <;> simp only [classIdx_control, classIdx_report, classIdx_implicit, classIdx_local, classIdx_primitive,
    classIdx_tmp, classIdx_immBool, classIdx_immNum, classIdx_none] at h <;>
    (try split at h) <;> simp_all

theorem serializeOp_eq_two_iff {o : Op} {c : Nat} (h : serializeOp o = .ok c) : c = 2 ↔ o = .def := by
  cases o <;> simp [serializeOp, unreachableP] at h <;> subst h <;> simp

theorem instrMatch_msg {i : Instr} {m : Libccp.InstrMsg} (h : instrMatch i m) : instrMsg? i = some m := by
  obtain ⟨h0, h1, h2, h3⟩ := h
  simp [instrMsg?, h0, h1, h2, h3]

theorem instrsMatch_length {is : List Instr} {ms : List Libccp.InstrMsg} (h : instrsMatch is ms) :
    ms.length = is.length := (instrsMatch_iff.mp h).1

theorem instrsMatch_filterMap {is : List Instr} {ms : List Libccp.InstrMsg} (h : instrsMatch is ms) :
    is.filterMap instrMsg? = ms := by
  induction is generalizing ms with
  | nil => cases ms with
    | nil => rfl
    | cons m ms => simp [instrsMatch] at h
  | cons i is ih => cases ms with
    | nil => simp [instrsMatch] at h
    | cons m ms =>
      simp only [instrsMatch] at h
      simp [instrMatch_msg h.1, ih h.2]

theorem instrsMatch_drop {is : List Instr} {ms : List Libccp.InstrMsg} (h : instrsMatch is ms) (k : Nat) :
    instrsMatch (is.drop k) (ms.drop k) := by
  obtain ⟨l, g⟩ := instrsMatch_iff.mp h
  refine instrsMatch_iff.mpr ⟨by simp only [List.length_drop, l], fun j i m hi hm => ?_⟩
  rw [List.getElem?_drop] at hi hm
  exact g _ i m hi hm

theorem instrsMatch_take {is : List Instr} {ms : List Libccp.InstrMsg} (h : instrsMatch is ms) (k : Nat) :
    instrsMatch (is.take k) (ms.take k) := by
  obtain ⟨l, g⟩ := instrsMatch_iff.mp h
  refine instrsMatch_iff.mpr ⟨by simp only [List.length_take, l], fun j i m hi hm => ?_⟩
  rw [List.getElem?_take] at hi hm
  split at hi
  · rename_i hj; rw [if_pos hj] at hm; exact g j i m hi hm
  · cases hi

theorem instrsMatch_getElem? {is : List Instr} {ms : List Libccp.InstrMsg} (h : instrsMatch is ms)
    {k : Nat} {i : Instr} (hk : is[k]? = some i) : ∃ m, ms[k]? = some m ∧ instrMatch i m := by
  obtain ⟨l, g⟩ := instrsMatch_iff.mp h
  have hlt : k < ms.length := by rw [l]; exact (List.getElem?_eq_some_iff.mp hk).1
  exact ⟨ms[k], List.getElem?_eq_getElem hlt, g k i _ hk (List.getElem?_eq_getElem hlt)⟩

theorem instrsMatch_forall {is : List Instr} {ms : List Libccp.InstrMsg} (h : instrsMatch is ms)
    (P : Libccp.InstrMsg → Prop) (hp : ∀ i ∈ is, ∀ m, instrMatch i m → P m) : ∀ m ∈ ms, P m := by
  obtain ⟨l, g⟩ := instrsMatch_iff.mp h
  intro m hm
  obtain ⟨k, hk, rfl⟩ := List.getElem_of_mem hm
  have hlt : k < is.length := by rw [← l]; exact hk
  exact hp is[k] (List.getElem_mem hlt) _
    (g k _ _ (List.getElem?_eq_getElem hlt) (List.getElem?_eq_getElem hk))

theorem defs_records {defs rest : List Instr} {ms : List Libccp.InstrMsg}
    (h : instrsMatch (defs ++ rest) ms) (hd : ∀ d ∈ defs, d.op = .def) (hr : ∀ i ∈ rest, i.op ≠ .def) :
    (defs.filterMap instrMsg?).length = defs.length ∧
    ms.take (defs.filterMap instrMsg?).length = defs.filterMap instrMsg? ∧
    (∀ m ∈ defs.filterMap instrMsg?, m.opcode = 2) ∧
    (∀ m ∈ ms.drop (defs.filterMap instrMsg?).length, m.opcode ≠ 2) := by
  have ht := instrsMatch_take h defs.length
  have hdr := instrsMatch_drop h defs.length
  rw [List.take_left' rfl] at ht
  rw [List.drop_left' rfl] at hdr
  have e1 : defs.filterMap instrMsg? = ms.take defs.length := instrsMatch_filterMap ht
  have e2 : (defs.filterMap instrMsg?).length = defs.length := by
    rw [e1]; exact instrsMatch_length ht
  refine ⟨e2, by rw [e2, e1], ?_, ?_⟩
  · rw [e1]
    refine instrsMatch_forall ht _ ?_
    intro i hi m hm
    exact (serializeOp_eq_two_iff hm.1).mpr (hd i hi)
  · rw [e2]
    refine instrsMatch_forall hdr _ ?_
    intro i hi m hm e
    exact hr i hi ((serializeOp_eq_two_iff hm.1).mp e)

theorem instrOkB_of {i : Instr} {m : Libccp.InstrMsg} (h : instrMatch i m) (hw : writable i.res = true)
    (hl : primOk i.left = true) (hr : primOk i.right = true) : instrOkB m = true := by
  obtain ⟨h0, h1, h2, h3⟩ := h
  have := serializeOp_bound h0
  simp only [instrOkB, Bool.and_eq_true, decide_eq_true_eq]
  exact ⟨⟨⟨⟨by omega, classIdx_writable h1 hw⟩, classIdx_regOk h1 (writable_primOk hw)⟩,
    classIdx_regOk h2 hl⟩, classIdx_regOk h3 hr⟩

theorem readsOkFrom_of (is : List Instr) (ms : List Libccp.InstrMsg) (hm : instrsMatch is ms)
    (pre : List Instr) (seen : List Nat) (hseen : ∀ w ∈ pre, ∀ j, writesTmp w j → j ∈ seen)
    (hr : ∀ a i b, is = a ++ i :: b → ∀ j, readsTmp i j → ∃ w ∈ pre ++ a, writesTmp w j) :
    readsOkFrom seen ms = true := by
  induction is generalizing ms pre seen with
  | nil => cases ms with
    | nil => rfl
    | cons m ms => simp [instrsMatch] at hm
  | cons i is ih => cases ms with
    | nil => simp [instrsMatch] at hm
    | cons m ms =>
      simp only [instrsMatch] at hm
      obtain ⟨⟨h0, h1, h2, h3⟩, hrest⟩ := hm
      have hhead := hr [] i is rfl
      simp only [List.append_nil] at hhead
      simp only [readsOkFrom, Bool.and_eq_true, Bool.or_eq_true, bne_iff_ne, ne_eq, List.contains_iff_mem]
      -- an operand of class 7 is a temporary `i` reads, so an instruction before it wrote it
      have rd : ∀ {r : Reg} {c k : Nat}, r.classIdx = .ok (c, k) → (∀ t, r = .tmp k t → readsTmp i k) →
          c ≠ 7 ∨ k ∈ seen := fun {r c k} hc hrd => by
        by_cases e : c = 7
        · subst e
          obtain ⟨t, ht⟩ := classIdx_eq7 hc
          obtain ⟨w, hw, hwj⟩ := hhead k (hrd t ht)
          exact .inr (hseen w hw _ hwj)
        · exact .inl e
      refine ⟨⟨rd h2 fun t ht => .inl ⟨t, ht⟩, rd h3 fun t ht => .inr ⟨t, ht⟩⟩, ?_⟩
      · refine ih ms hrest (pre ++ [i]) _ ?_ ?_
        · intro w hw j hwj
          simp only [List.mem_append, List.mem_singleton] at hw
          rcases hw with hw | rfl
          · have := hseen w hw j hwj
            split <;> simp [this]
          · obtain ⟨t, ht⟩ := hwj
            rw [ht] at h1
            obtain ⟨-, c7, ij⟩ := classIdx_tmp.mp h1
            simp [c7, ij]
        · intro a x b hs j hj
          obtain ⟨w, hw, hwj⟩ := hr (i :: a) x b (by rw [hs]; rfl) j hj
          exact ⟨w, by simpa using hw, hwj⟩

theorem readsOkB_of {is : List Instr} {ms : List Libccp.InstrMsg} (hm : instrsMatch is ms)
    (h : ReadsOk is) : readsOkFrom [] ms = true :=
  readsOkFrom_of is ms hm [] [] (by simp) (by simpa [ReadsOk] using h)

theorem tilesB_of {s t : Nat} {evs : List EvRec} (h : Tiles s evs t) :
    tilesB s (evs.map evToLibccp) t = true := by
  induction evs generalizing s with
  | nil => simpa [Tiles, tilesB] using h
  | cons e es ih =>
    obtain ⟨h1, h2, h3⟩ := h
    simp only [List.map_cons, tilesB, evToLibccp, Bool.and_eq_true, beq_iff_eq]
    exact ⟨⟨h1, h2⟩, ih h3⟩

theorem Tiles_le {s t : Nat} {evs : List EvRec} (h : Tiles s evs t) : s ≤ t := by
  induction evs generalizing s with
  | nil => simp only [Tiles] at h; omega
  | cons e es ih =>
    obtain ⟨h1, h2, h3⟩ := h
    have := ih h3
    omega

theorem Tiles_inRange {s t : Nat} {evs : List EvRec} (h : Tiles s evs t) (ht : t < 2^32) :
    ∀ e ∈ evs, evInRange e := by
  induction evs generalizing s with
  | nil => simp
  | cons e es ih =>
    obtain ⟨h1, h2, h3⟩ := h
    have := Tiles_le h3
    exact List.forall_mem_cons.mpr ⟨by simp only [evInRange]; omega, ih h3⟩

theorem evOkB_of {is : List Instr} {ms : List Libccp.InstrMsg} (hm : instrsMatch is ms) {e : EvRec}
    (h : EvOk is e) : evOkB ms (evToLibccp e) = true := by
  obtain ⟨h1, ⟨i, t, hi, hres⟩, h3, h4⟩ := h
  obtain ⟨m, hmk, hmm⟩ := instrsMatch_getElem? hm hi
  have hc := hmm.2.1
  rw [hres] at hc
  obtain ⟨-, c2, i0⟩ := classIdx_implicit.mp hc
  simp only [evOkB, evToLibccp, hmk, Bool.and_eq_true, beq_iff_eq]
  exact ⟨⟨⟨decide_eq_true h1, c2, i0⟩, readsOkB_of (instrsMatch_take (instrsMatch_drop hm _) _) h3⟩,
    readsOkB_of (instrsMatch_take (instrsMatch_drop hm _) _) h4⟩

end Portus.C03
