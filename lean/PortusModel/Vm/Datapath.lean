import PortusModel.Vm.Machine
/-!
# libccp's datapath object: program table, connections, `ccp_read_msg`, `ccp_invoke`
(as driven by /verif/harness/cvm: 4 connections, 10 program slots, fallback timer disabled)
-/
namespace Portus.Vm
open Portus

structure Dp where
  /-- program table: `index` (0 = free) and the program -/
  programs : List (Nat × Program)
  conns : List (Option Conn)
deriving Repr, Inhabited

def emptyProgram : Program := { uid := 0, exprs := [], instrs := [], numToReturn := 0 }

def Dp.init : Dp := { programs := List.replicate 10 (0, emptyProgram), conns := List.replicate 4 none }

/-- `read_instruction` -/
def readInstruction (m : Libccp.InstrMsg) : Except Int VInstr :=
  if m.opcode ≥ 15 then .error (-33)
  else if m.resT = 1 ∨ m.resT = 4 then .error (-34)
  else if m.resT > 8 then .error (-35)
  else if m.leftT > 8 then .error (-36)
  else if m.rightT > 8 then .error (-37)
  else .ok { op := m.opcode, ret := ⟨m.resT, m.resI⟩, left := ⟨m.leftT, m.leftI⟩, right := ⟨m.rightT, m.rightI⟩ }

/-- instructions parsed until the first bad one (those stay in the slot) -/
def readInstructions : List Libccp.InstrMsg → List VInstr → List VInstr × Int
  | [], acc => (acc.reverse, 0)
  | m :: rest, acc =>
    match readInstruction m with
    | .ok i => readInstructions rest (i :: acc)
    | .error rc => (acc.reverse, rc)

def findFree : List (Nat × Program) → Nat → Option Nat
  | [], _ => none
  | (idx, _) :: rest, k => if idx = 0 then some k else findFree rest (k + 1)

/-- `datapath_program_install` (the slot is marked used before the table-full test) -/
def installProgram (dp : Dp) (uid : Nat) (exprs : List Libccp.Expr) (ims : List Libccp.InstrMsg) : Dp × Int :=
  match findFree dp.programs 0 with
  | none => (dp, -81)
  | some k =>
    let pid := k + 1
    if pid ≥ 10 then
      ({ dp with programs := dp.programs.set k (pid, (dp.programs.getD k (0, emptyProgram)).2) }, -81)
    else
      let r := readInstructions ims []
      -- on an instruction error the remaining slots keep whatever the table held (zeros after init)
      let prog : Program := { uid := uid, exprs := exprs, instrs := r.1, numToReturn := numToReturn r.1 }
      ({ dp with programs := dp.programs.set k (pid, prog) }, r.2)

def lookupUid (dp : Dp) (uid : Nat) : Option Nat :=
  (dp.programs.find? fun p => p.1 ≠ 0 ∧ p.2.uid = uid).map (·.1)

def lookupIndex (dp : Dp) (idx : Nat) : Option Program :=
  (dp.programs.find? fun p => p.1 = idx ∧ idx ≠ 0).map (·.2)

/-- `stage_update` / `stage_multiple_updates`: stops at the first refused update (earlier ones stay) -/
def stageUpdates : Pending → List Libccp.Upd → Pending × Int
  | p, [] => (p, 0)
  | p, u :: rest =>
    if u.cls = 0 ∨ u.cls = 8 then
      stageUpdates { p with control := p.control.set u.idx (some (UInt64.ofNat u.val)) } rest
    else if u.cls = 2 then
      if u.idx = 4 then stageUpdates { p with cwnd := some (UInt64.ofNat u.val) } rest
      else if u.idx = 5 then stageUpdates { p with rate := some (UInt64.ofNat u.val) } rest
      else stageUpdates p rest
    else (p, -53)

def getConn (dp : Dp) (sid : Nat) : Option Conn :=
  let s := sid % 65536
  if s = 0 then none else (dp.conns.getD (s - 1) none)

def setConn (dp : Dp) (sid : Nat) (c : Conn) : Dp :=
  { dp with conns := dp.conns.set ((sid % 65536) - 1) (some c) }

/-- `ccp_read_msg` on a buffer followed by zero padding (as the C driver provides) -/
def readMsg (dp : Dp) (buf : Bytes) : Dp × Int :=
  let padded := buf ++ zeros 64
  let typ := rd16 padded
  let len := rd16 (padded.drop 2)
  let sid := rd32 (padded.drop 4)
  if typ ≠ 2 ∧ typ ≠ 3 ∧ typ ≠ 4 then (dp, -32)
  else if len > buf.length then (dp, -22)
  else if len > 32678 then (dp, -23)
  else
    let p := (buf ++ zeros 16384).drop 8
    if typ = 2 then
      let uid := rd32 p
      let ne := rd32 (p.drop 4)
      let ni := rd32 (p.drop 8)
      let dp := if uid = 1 then { dp with programs := List.replicate 10 (0, emptyProgram) } else dp
      installProgram dp uid (Libccp.readExprs ne (p.drop 12)) (Libccp.readInstrs ni (p.drop (12 + 16 * ne)))
    else
      match getConn dp sid with
      | none => (dp, -71)
      | some c =>
        if typ = 3 then
          let n := Libccp.signedByteAsU32 (bAt p 0)
          if n > 222 then (dp, -52)
          else
            let r := stageUpdates c.pending (Libccp.readUpds n (p.drop 4))
            (setConn dp sid { c with pending := r.1 }, if r.2 < 0 then r.2 else 0)
        else
          let uid := rd32 p
          let n := rd32 (p.drop 4)
          if n > 222 then (dp, -62)
          else
            match lookupUid dp uid with
            -- unknown uid: `return ret`, and `ret` still holds the 8 = `sizeof(struct ChangeProgMsg)` of `read_change_prog_msg`
            | none => (dp, 8)
            | some idx =>
              let r := stageUpdates Pending.none (Libccp.readUpds n (p.drop 8))
              (setConn dp sid { c with staged := some idx, pending := r.1 }, if r.2 < 0 then r.2 else 0)

/-- `ccp_invoke` for a connection whose create message has been sent -/
def invoke (dp : Dp) (sid : Nat) (now : Val) (prims : Prims) : Option (Dp × Obs) :=
  match getConn dp sid with
  | none => none
  | some c =>
    let env : Env := { now := now, timeZero := 0, prims := prims }
    let c := { c with regs := { c.regs with impl := (c.regs.impl.set 4 (prims.sndCwnd.toUInt32.toUInt64)).set 5 prims.sndRate } }
    -- staged program switch
    let c := match c.staged with
      | some idx =>
        let c := { c with programIndex := idx, staged := none }
        match lookupIndex dp idx with
        | some p =>
          let c := initRegisterState env p (resetState env p c)
          { c with t0 := now, regs := { c.regs with impl := c.regs.impl.set 3 0 } }
        | none => { c with t0 := now, regs := { c.regs with impl := c.regs.impl.set 3 0 } }
      | none => c
    -- pending updates
    let ctl := (c.regs.control.zip c.pending.control).map fun p => match p.2 with | some v => v | none => p.1
    let c := { c with regs := { c.regs with control := ctl } }
    let o : Obs := { rc := 0, setCwnd := none, setRate := none, report := none }
    let (c, o) := match c.pending.cwnd with
      | some v => ({ c with regs := { c.regs with impl := c.regs.impl.set 4 v } },
                   { o with setCwnd := if v != 0 then some v else none })
      | none => (c, o)
    let (c, o) := match c.pending.rate with
      | some v => ({ c with regs := { c.regs with impl := c.regs.impl.set 5 v } },
                   { o with setRate := if v != 0 then some v else o.setRate })
      | none => (c, o)
    let c := { c with pending := Pending.none }
    match lookupIndex dp c.programIndex with
    | none => some (setConn dp sid c, { o with rc := -96 })
    | some p =>
      let r := stateMachine env p c o
      some (setConn dp sid r.1, r.2)

def newConn : Conn :=
  { regs := Regs.zero, t0 := 0, programIndex := 0, staged := none, pending := Pending.none }

/-- `ccp_connection_start`: lowest free slot; returns the sid -/
def connStart (dp : Dp) : Option (Dp × Nat) :=
  match dp.conns.findIdx? (·.isNone) with
  | none => none
  | some k => some ({ dp with conns := dp.conns.set k (some newConn) }, k + 1)

end Portus.Vm
