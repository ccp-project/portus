import PortusModel.Lemmas.Pipeline
import PortusModel.Lemmas.Ctl
/-!
# Lemmas about integer literals behind the parser

* the immediate encoding `Reg.immNum n`;
* where a literal ends up: `defInstrs`;
* `serializeInstrs`/`Bin.serialize`: success means every register has an encoding.
-/
namespace Portus.Lang
open Portus Portus.Wire

theorem immNum_classIdx (n : Nat) :
    (Reg.immNum n).classIdx =
      if n < 2^31 then .ok (1, n) else if n = 2^64 - 1 then .ok (1, 2^32 - 1) else .err := by
  simp only [Reg.classIdx]
  by_cases h1 : n < 2^31
  · have : n % 2^32 = n := by omega
    simp only [h1, or_true, if_true, this]
  · by_cases h2 : n = 2^64 - 1
    · subst h2; simp only [true_or, if_true]; rfl
    · simp only [h1, h2, or_self, if_false]

theorem immNum_serialize (n : Nat) :
    (Reg.immNum n).serialize =
      if n < 2^31 then .ok (1 :: le32 n) else if n = 2^64 - 1 then .ok [1, 255, 255, 255, 255] else .err := by
  simp only [Reg.serialize, immNum_classIdx]
  split
  · rfl
  · split
    · rfl
    · rfl

theorem immNum_serialize_big {n : Nat} (h1 : 2^31 ≤ n) (h2 : n ≠ 2^64 - 1) :
    (Reg.immNum n).serialize = .err := by
  rw [immNum_serialize, if_neg (by omega), if_neg h2]

theorem defInstrs_mem_of_num {l : List (Name × Reg)} {name : Name} {reg : Reg} {n : Nat}
    (hm : (name, reg) ∈ l) (hrc : isRC reg = true) (ht : reg.getType = .num (some n)) :
    defNum reg n ∈ defInstrs l := by
  rw [defInstrs_eq_filterMap]
  exact List.mem_filterMap.mpr ⟨_, hm, defOf_num hrc ht⟩

theorem defInstrs_append (a b : List (Name × Reg)) : defInstrs (a ++ b) = defInstrs a ++ defInstrs b := by
  simp only [defInstrs_eq_filterMap, List.filterMap_append]

theorem defInstrs_eq_nil {l : List (Name × Reg)} (h : ∀ p ∈ l, isRC p.2 = false) : defInstrs l = [] := by
  rw [defInstrs_eq_filterMap, List.filterMap_eq_nil_iff]
  intro p hp
  cases hd : defOf p with
  | none => rfl
  | some i =>
    have := (defOf_some hd).1
    rw [h p hp] at this
    cases this

/-- behind the names smaller than `n` (`l₁`), a new entry goes in front of the first name that is not
smaller; if nothing from there on has a `Def` (`l₂`), the `Def` of the new entry comes last -/
theorem defInstrs_regInsert {n : Name} {r : Reg} {l₁ l₂ : List (Name × Reg)}
    (h1 : ∀ p ∈ l₁, strLt p.1 n = true) (h2 : defInstrs l₂ = []) :
    defInstrs (regInsert n r (l₁ ++ l₂)) = defInstrs l₁ ++ defInstrs [(n, r)] := by
  induction l₁ with
  | nil =>
    obtain ⟨a, b, rfl, -, hab⟩ := regInsert_split n l₂
    rw [defInstrs_append] at h2
    obtain ⟨ha, hb⟩ := List.append_eq_nil_iff.mp h2
    rw [List.nil_append, hab, defInstrs_append, ha, ← List.singleton_append, defInstrs_append, hb, List.append_nil]
    rfl
  | cons p l ih =>
    obtain ⟨s, x⟩ := p
    rw [List.cons_append, regInsert, if_pos (h1 (s, x) List.mem_cons_self), ← List.singleton_append,
      defInstrs_append, ih fun p hp => h1 p (List.mem_cons_of_mem _ hp), ← List.append_assoc,
      ← defInstrs_append, List.singleton_append]

theorem defInstrs_builtin : defInstrs builtinNamed = [] :=
  defInstrs_eq_nil (List.forall_mem_map.mpr (by decide : ∀ p ∈ builtinTable, isRC p.2 = false))

/-- the registers `C14.no_silent_truncation` speaks of -/
def Instr.regs (i : Instr) : List Reg := [i.res, i.left, i.right]

theorem serializeInstrs_ok_mem {is : List Instr} {b : Bytes} (h : serializeInstrs is = .ok b) :
    ∀ i ∈ is, ∃ ib, i.serialize = .ok ib := by
  induction is generalizing b with
  | nil => intro i hi; cases hi
  | cons j rest ih =>
    simp only [serializeInstrs] at h
    obtain ⟨jb, hj, h⟩ := Out.bind_eq_ok.mp h
    obtain ⟨rb, hr, -⟩ := Out.bind_eq_ok.mp h
    exact List.forall_mem_cons.mpr ⟨⟨jb, hj⟩, ih hr⟩

theorem Instr.serialize_ok_regs {i : Instr} {b : Bytes} (h : i.serialize = .ok b) :
    ∀ r ∈ i.regs, ∃ c x, r.classIdx = .ok (c, x) := by
  obtain ⟨o, c1, i1, c2, i2, c3, i3, -, e1, e2, e3, -⟩ := Instr.serialize_ok h
  intro r hr
  simp only [Instr.regs, List.mem_cons, List.not_mem_nil, or_false] at hr
  rcases hr with rfl | rfl | rfl
  · exact ⟨_, _, e1⟩
  · exact ⟨_, _, e2⟩
  · exact ⟨_, _, e3⟩

end Portus.Lang
