import PortusModel.Base.Bytes
/-!
# How libccp 1.2.0 reads CCP → datapath messages
(`serialize.c` `read_header`, `read_install_expr_msg_hdr`, `check_update_fields_msg`,
`read_change_prog_msg`; `ccp.c` `ccp_read_msg`; packed little-endian structs of `serialize.h`)

This is the *independent reader* of C06: it knows nothing about portus' encoders.
-/
namespace Portus.Libccp
open Portus

/-- `struct UpdateField { u8 reg_type; u32 reg_index; u64 new_value; }` packed: 13 bytes -/
structure Upd where
  cls : Nat
  idx : Nat
  val : Nat
deriving Repr, DecidableEq, Inhabited

/-- `struct ExpressionMsg` (4 × u32) -/
structure Expr where
  condStart : Nat
  numCond : Nat
  eventStart : Nat
  numEvent : Nat
deriving Repr, DecidableEq, Inhabited

/-- `struct InstructionMsg` packed: opcode, then three (type, register) pairs: 16 bytes -/
structure InstrMsg where
  opcode : Nat
  resT : Nat
  resI : Nat
  leftT : Nat
  leftI : Nat
  rightT : Nat
  rightI : Nat
deriving Repr, DecidableEq, Inhabited

inductive CtlMsg where
  | install (sid uid : Nat) (exprs : List Expr) (instrs : List InstrMsg)
  | changeProg (sid uid : Nat) (updates : List Upd)
  | updateFields (sid : Nat) (updates : List Upd)
deriving Repr, DecidableEq, Inhabited

/-- libccp's own value (`serialize.h`: `#define BIGGEST_MSG_SIZE 32678`, not 32768); `Tables.libccp_model_constants`
ties this and the next constant to the headers -/
def BIGGEST_MSG_SIZE : Nat := 32678
def MAX_MUTABLE_REG : Nat := 222

def readUpds : Nat → Bytes → List Upd
  | 0, _ => []
  | n + 1, b => { cls := bAt b 0, idx := rd32 (b.drop 1), val := rd64 (b.drop 5) } :: readUpds n (b.drop 13)

def readExprs : Nat → Bytes → List Expr
  | 0, _ => []
  | n + 1, b => { condStart := rd32 b, numCond := rd32 (b.drop 4), eventStart := rd32 (b.drop 8),
                  numEvent := rd32 (b.drop 12) } :: readExprs n (b.drop 16)

def readInstrs : Nat → Bytes → List InstrMsg
  | 0, _ => []
  | n + 1, b => { opcode := bAt b 0, resT := bAt b 1, resI := rd32 (b.drop 2), leftT := bAt b 6,
                  leftI := rd32 (b.drop 7), rightT := bAt b 11, rightI := rd32 (b.drop 12) }
                :: readInstrs n (b.drop 16)

/-- `(u32)*buf` on a `char *`: one *signed* byte, sign-extended, then converted to `u32` -/
def signedByteAsU32 (x : Nat) : Nat := if x < 128 then x else 2^32 - 256 + x

/-- `ccp_read_msg` up to the point where the message has been taken apart; `none` = a negative return
code. The caller passes the whole buffer; `bufsize = buf.length`. Reads beyond `hdr.Len` but inside
the buffer are what the C code would do too, so the records are read from `buf`, not from a slice. -/
def readMsg (buf : Bytes) : Option CtlMsg :=
  if buf.length < 8 then none else
  let typ := rd16 buf
  let len := rd16 (buf.drop 2)
  let sid := rd32 (buf.drop 4)
  if typ ≠ 2 ∧ typ ≠ 3 ∧ typ ≠ 4 then none else
  if len > buf.length then none else
  if len > BIGGEST_MSG_SIZE then none else
  let p := buf.drop 8
  if typ = 2 then
    let uid := rd32 p
    let ne := rd32 (p.drop 4)
    let ni := rd32 (p.drop 8)
    some (.install sid uid (readExprs ne (p.drop 12)) (readInstrs ni (p.drop (12 + 16 * ne))))
  else if typ = 3 then
    let n := signedByteAsU32 (bAt p 0)
    if n > MAX_MUTABLE_REG then none else
    some (.updateFields sid (readUpds n (p.drop 4)))
  else
    let uid := rd32 p
    let n := rd32 (p.drop 4)
    if n > MAX_MUTABLE_REG then none else
    some (.changeProg sid uid (readUpds n (p.drop 8)))

end Portus.Libccp
