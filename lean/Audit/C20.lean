import PortusModel.Props.C20
import PortusModel.Props.C20Layout
import PortusModel.Lemmas.AcceptProg
import PortusModel.Props.Tables
#print axioms Portus.Lang.Typing.well_typed_accepted
#print axioms Portus.Lang.Typing.well_typed_accepted_upd
#print axioms Portus.Lang.Typing.well_typed_image
#print axioms Portus.Lang.Typing.wtSrc_accepted
#print axioms Portus.Lang.Typing.richSrc_accepted
#print axioms Portus.Lang.Typing.wellTyped_eq
#print axioms Portus.Lang.Typing.wellTyped_mono
#print axioms Portus.Lang.Typing.compile_value
#print axioms Portus.Lang.Typing.nestedSrc_accepted
#print axioms Portus.Lang.Typing.nestedLocalSrc_accepted
#print axioms Portus.Lang.Typing.hazardSrc_accepted
#print axioms Portus.Lang.Typing.finding_known_target_type
#print axioms Portus.Lang.Typing.compile_valueG
#print axioms Portus.Lang.Typing.compile_flagV
#print axioms Portus.Lang.Typing.guardedValueSrc_accepted
#print axioms Portus.Lang.Typing.condBindSrc_accepted
#print axioms Portus.Lang.Typing.finding_bind_condition
#print axioms Portus.Lang.Typing.finding_placeholder_operand
#print axioms Portus.Lang.Typing.finding_bare_bool_condition
#print axioms Portus.Lang.Typing.finding_guarded_target
#print axioms Portus.C20.layout_same_image
#print axioms Portus.C20.comments_same_program
#print axioms Portus.C20.rendering_parses
#print axioms Portus.Lang.parse_render
#print axioms Portus.Lang.layout_independent
#print axioms Portus.Lang.comments_only_add_none
#print axioms Portus.Lang.rexpr_parses
#print axioms Portus.Lang.revents_parse
#print axioms Portus.Lang.rdefs_parse
#print axioms Portus.Lang.spelling_table
#print axioms Portus.C20.comments_do_not_lower
#print axioms Portus.C20.comments_irrelevant
#print axioms Portus.C20.compile_deterministic
#print axioms Portus.C20.image_deterministic
#print axioms Portus.C20.spelling_table
#print axioms Portus.C20.spellings_cover
#print axioms Portus.Lang.compile_uid_indep
#print axioms Portus.Tables.src_opTable_eq
