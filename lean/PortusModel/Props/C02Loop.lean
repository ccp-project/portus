import PortusModel.Props.C02History
import PortusModel.Props.C05Loop
/-!
# C02 for the loop itself: datagrams in, callbacks out

`C02.history_refines_flat_map` is about the dispatch loop over the list of (address, message) pairs the receive path yields.
This file ties that list to the loop model `Rt.runLoop`, as `Props/C05Loop` does for the transmitted messages: the calls
into user code the loop makes (`new_flow`, `on_report`, `close`) are those of the history of yielded messages.
`dropped` events (the `Drop` of a flow object) are left out of this projection because the loop also drops the flows
still alive at shutdown, which the per-input specification does not list; they are covered per input by
`history_refines_flat_map`.
-/
namespace Portus.C02
open Portus Portus.Lang Portus.Wire Portus.Ipc Portus.Rt

/-- the calls into user code proper -/
def isUserCall : Ev → Bool
  | .newFlow .. => true
  | .report .. => true
  | .closed .. => true
  | _ => false

def userCalls (evs : List Ev) : List Ev := evs.filter isUserCall

theorem userCalls_append (a b : List Ev) : userCalls (a ++ b) = userCalls a ++ userCalls b :=
  List.filter_append a b

@[simp] theorem userCalls_nil : userCalls [] = [] := rfl

theorem userCalls_rxEvents (l : List Rx) : userCalls (rxEvents l) = [] :=
  C05.filter_rxEvents_eq_nil isUserCall (fun _ _ => rfl) l

theorem userCalls_shutdown {σ : Type} (st : St σ) : userCalls (shutdown st) = [] :=
  C05.filter_dropAll_eq_nil isUserCall (fun _ => rfl) _

theorem loop_calls_eq_hist_calls {σ : Type} (cfg : Cfg) (pol : Policy σ) (fuel : Nat) (b : Backend) (rx : List Rx)
    (st : St σ) (acc : List Ev) (tr : List Ev) (r : Res)
    (h : runLoop cfg pol fuel b rx st acc = .ok (tr, r)) :
    userCalls tr = userCalls acc ++
      userCalls ((C05.runHistSf cfg pol st (C05.yielded cfg pol fuel b rx st)).flatMap fun x => x.2.2) :=
  C05.loop_eq_hist isUserCall (fun _ _ => rfl) (fun _ => rfl) cfg pol fuel b rx st acc tr r h

theorem userCalls_filter_callback (evs : List Ev) : userCalls (evs.filter isCallback) = userCalls evs := by
  unfold userCalls
  rw [List.filter_filter]
  congr 1
  funext e
  cases e <;> rfl

/-- **C02 for the loop.** For every configuration, bounded policy, receive buffer content, script of datagrams / receive
failures / stop requests / send-failure items, the user-code calls of `run` are, input by input, those of the flat-map
specification run over the messages the receive path yielded — the last handled input possibly cut short (a failed
install send ends the run). Stated with `matchesSpec` on the per-input lists projected to user calls. -/
theorem loop_refines_flat_map {σ : Type} (cfg : Cfg) (pol : Policy σ) (hb : pol.Bounded) (fuel : Nat)
    (b : Backend) (rx : List Rx) (sf : Nat) :
    matchesSpec
      (callbacksOf (C05.runHistSf cfg pol { (St.init : St σ) with sendFail := sf }
        (C05.yielded cfg pol fuel b rx { (St.init : St σ) with sendFail := sf })))
      (specRun cfg.pick Spec.init
        ((C05.yielded cfg pol fuel b rx { (St.init : St σ) with sendFail := sf }).map fun x => (x.2.1, x.2.2))) = true :=
  history_refines_flat_map cfg pol hb sf _

end Portus.C02
