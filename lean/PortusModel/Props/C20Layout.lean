import PortusModel.Props.C20
import PortusModel.Lemmas.ParseRender
/-!
# C20 — layout independence, end to end

`parse_render` (`Lemmas/ParseRender.lean`: the parser model maps every rendering of a tree, `Lang/Render.lean`, back to
the tree) composed with the compiler.
-/
namespace Portus.C20
open Portus Portus.Lang

theorem compile_of_parse_eq {t1 t2 : List Char} (h : parseSource t1 = parseSource t2) (uid : Nat)
    (upd : List (Name × Nat)) : compileAndSerialize uid t1 upd = compileAndSerialize uid t2 upd := by
  unfold compileAndSerialize compile newWithScope
  rw [h]

/-- **whitespace, spelling and numeral layout never changes the compiled program**: any two renderings of the same
declarations and events compile to the same image and the same scope, under every uid and update list. -/
theorem layout_same_image {ds : List Decl} {evs : List Event} {t1 t2 : List Char}
    (h1 : RProg ds evs t1) (h2 : RProg ds evs t2) (uid : Nat) (upd : List (Name × Nat)) :
    compileAndSerialize uid t1 upd = compileAndSerialize uid t2 upd :=
  compile_of_parse_eq (layout_independent h1 h2) uid upd

theorem rendering_parses {ds : List Decl} {evs : List Event} {t : List Char} (h : RProg ds evs t) :
    parseSource t = some (ds, evs.map fun e => { e with body := e.body.map desugar }) :=
  parse_render h

/-- **comments never change the compiled program**: two renderings whose events differ only in comment items compile
to the same binary and scope. -/
theorem comments_same_program {ds : List Decl} {evs evs' : List Event} {t t' : List Char}
    (h1 : RProg ds evs t) (h2 : RProg ds evs' t') (hs : stripNone evs = stripNone evs')
    (uid : Nat) (upd : List (Name × Nat)) :
    compile uid t upd = compile uid t' upd := by
  obtain ⟨p, p', hp, hp', hpp⟩ := comments_only_add_none h1 h2 hs
  unfold compile newWithScope
  rw [hp, hp']
  simp only
  cases declareAll (Scope.new uid) ds with
  | ok sc =>
    show compileProg p (applyUpdates sc upd) = compileProg p' (applyUpdates sc upd)
    exact comments_irrelevant p p' hpp _
  | err => rfl
  | panic => rfl

end Portus.C20
