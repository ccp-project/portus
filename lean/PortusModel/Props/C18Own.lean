import PortusModel.Conc.Own
/-!
# C18 / C19 — the hand-off of the stop handle is balanced, the socket is closed exactly once, a handle that outlives the
runtime cannot send

Over the reference-count model `Conc/Own.lean`; `ops` ranges over the sequences of handle operations user code and the
loop perform.
-/
namespace Portus.C18
open Portus.Conc.Own

theorem apply_keeps (w : W) (o : Op) : (apply w o).flag = w.flag ∧ (apply w o).sockStrong = w.sockStrong ∧
    (apply w o).closes = w.closes := by
  cases o with
  | cloneInside | park =>
    simp only [apply]
    split <;> simp
  | _ => simp [apply]

theorem fold_keeps (ops : List Op) (w : W) : (ops.foldl apply w).flag = w.flag ∧ (ops.foldl apply w).sockStrong = w.sockStrong ∧
    (ops.foldl apply w).closes = w.closes := by
  induction ops generalizing w with
  | nil => simp
  | cons o r ih =>
    obtain ⟨a, b, c⟩ := ih (apply w o)
    obtain ⟨a', b', c'⟩ := apply_keeps w o
    simp only [List.foldl_cons]
    exact ⟨a.trans a', b.trans b', c.trans c'⟩

/-- **The stop-handle hand-off is balanced**: whatever happened during the run, when `run` has returned the caller's
handles are the only ones left (`Arc::strong_count` is what it was before the builder was given a clone). -/
theorem stop_handle_balanced (c : Nat) (ops : List Op) : (runOps c ops).flag = c := by
  obtain ⟨h, _, _⟩ := fold_keeps ops (start c)
  have h' : (ops.foldl apply (start c)).flag = c + 1 + 1 := h
  unfold runOps
  generalize ops.foldl apply (start c) = w at h'
  simp only [finish, dropBackend, h']
  omega

/-- **The socket is dropped, and closed at most once**; it is closed exactly once iff no copy of a handle outlives the runtime. -/
theorem close_called_once (c : Nat) (ops : List Op) :
    (runOps c ops).sockStrong = 0 ∧
    (runOps c ops).closes = if (ops.foldl apply (start c)).outside = 0 then 1 else 0 := by
  obtain ⟨_, h2, h3⟩ := fold_keeps ops (start c)
  have h2' : (ops.foldl apply (start c)).sockStrong = 1 := h2
  have h3' : (ops.foldl apply (start c)).closes = 0 := h3
  unfold runOps
  generalize ops.foldl apply (start c) = w at h2' h3'
  simp only [finish, dropBackend, h2', h3']
  refine ⟨trivial, ?_⟩
  by_cases h : w.outside = 0 <;> simp [h]

/-- no `park` among the operations: handles are kept only inside flows (and then never prevent the close,
`close_exactly_once_under_discipline`) -/
def insideOnly : List Op → Bool
  | [] => true
  | .park :: _ => false
  | _ :: r => insideOnly r

theorem outside_zero_of_insideOnly (ops : List Op) (w : W) (h : insideOnly ops = true) (hw : w.outside = 0) :
    (ops.foldl apply w).outside = 0 := by
  induction ops generalizing w with
  | nil => simpa
  | cons o r ih =>
    cases o with
    | park => simp [insideOnly] at h
    | cloneInside => exact ih _ h (by simp only [apply]; split <;> simp [hw])
    | dropOutside => exact ih _ h (by simp [apply, hw])
    | _ => exact ih _ h hw

theorem close_exactly_once_under_discipline (c : Nat) (ops : List Op) (h : insideOnly ops = true) :
    (runOps c ops).closes = 1 := by
  rw [(close_called_once c ops).2, outside_zero_of_insideOnly ops (start c) h rfl]
  rfl

/-- **A handle that outlives the runtime cannot send** (C19: an error, not a panic — `Weak::upgrade` fails). -/
theorem dead_handle_cannot_send (c : Nat) (ops : List Op) : sendOk (runOps c ops) = false := by
  simp [sendOk, (close_called_once c ops).1]

/-- non-vacuity: two flows, one handle copied and parked outside: balanced, not closed, cannot send; without the park: closed once -/
example : (runOps 1 [.newHandle, .newHandle, .cloneInside, .park, .dropInside]).flag = 1 ∧
    (runOps 1 [.newHandle, .newHandle, .cloneInside, .park, .dropInside]).closes = 0 ∧
    (runOps 1 [.newHandle, .newHandle, .cloneInside, .dropInside]).closes = 1 := by decide

end Portus.C18
