import PortusModel.Lang.Typing
import PortusModel.Lemmas.Pipeline
/-!
# C20, acceptance: the encoder's tests, and a typing environment that describes a register file

`regOk` / `opOk` / `instrOk` say "`serialize` returns"; `Inv Γ sc` says the environment `Γ` of `Lang/Typing` knows
exactly the bindings of `sc`, each with its kind and type (`Fwd`, `kindOk`, `tyMatch`). The stage lemmas that
use them are in `AcceptValue.lean`, `well_typed_accepted` in `AcceptProg.lean`.
-/
namespace Portus.Lang.Typing
open Portus Portus.Lang

/-- `Reg::serialize` returns (unrelated to `Lang.RegOk` of `Lemmas/ScopeLemmas` and to C03's `regOkB`) -/
def regOk (r : Reg) : Bool :=
  match r.classIdx with
  | .ok _ => true
  | _ => false

/-- the operator has an opcode (`serialize_op` returns) -/
def opOk (o : Op) : Bool :=
  match serializeOp o with
  | .ok _ => true
  | _ => false

def instrOk (i : Instr) : Bool := opOk i.op && regOk i.res && regOk i.left && regOk i.right

theorem regOk_ser {r : Reg} (h : regOk r = true) : ∃ b, r.serialize = .ok b := by
  unfold regOk at h
  unfold Reg.serialize
  cases hc : r.classIdx with
  | ok p => exact ⟨_, rfl⟩
  | err | panic => rw [hc] at h; cases h

theorem instrOk_ser {i : Instr} (h : instrOk i = true) : ∃ b, i.serialize = .ok b := by
  unfold instrOk at h
  simp only [Bool.and_eq_true] at h
  obtain ⟨⟨⟨h1, h2⟩, h3⟩, h4⟩ := h
  obtain ⟨b2, e2⟩ := regOk_ser h2
  obtain ⟨b3, e3⟩ := regOk_ser h3
  obtain ⟨b4, e4⟩ := regOk_ser h4
  unfold opOk at h1
  unfold Instr.serialize
  cases e1 : serializeOp i.op with
  | ok o => rw [e2, e3, e4]; exact ⟨_, rfl⟩
  | err | panic => rw [e1] at h1; cases h1

theorem instrs_ser {is : List Instr} (h : ∀ i ∈ is, instrOk i = true) : ∃ b, serializeInstrs is = .ok b := by
  induction is with
  | nil => exact ⟨[], rfl⟩
  | cons i rest ih =>
    obtain ⟨b, e⟩ := instrOk_ser (h i List.mem_cons_self)
    obtain ⟨b', e'⟩ := ih (fun j hj => h j (List.mem_cons_of_mem _ hj))
    unfold serializeInstrs
    rw [e, e']
    exact ⟨_, rfl⟩

theorem regOk_ne_none {r : Reg} (h : regOk r = true) : r ≠ .none := by
  intro e; subst e; cases h

theorem regOk_immNum {n : Nat} (h : litOk n = true) : regOk (.immNum n) = true := by
  unfold litOk at h
  simp only [Bool.or_eq_true, decide_eq_true_eq] at h
  simp only [regOk, Reg.classIdx]
  rw [if_pos (by omega)]

theorem regOk_immBool (b : Bool) : regOk (.immBool b) = true := rfl

theorem regOk_tmp {i : Nat} (t : Lang.Ty) (h : i ≤ 7) : regOk (.tmp i t) = true := by
  simp only [regOk, Reg.classIdx]
  rw [if_neg (by omega)]

def tyMatch : Ty → Lang.Ty → Bool
  | .num, .num _ => true
  | .bool, .bool _ => true
  | _, _ => false

def kindOk : Kind → Reg → Bool
  | .prim, .primitive i _ => decide (i ≤ 15)
  | .impl, .implicit i _ => decide (i ≤ 5)
  | .var, .report i _ _ => decide (i ≤ 15)
  | .var, .control i _ _ => decide (i ≤ 15)
  | .loc, .local i _ => decide (i ≤ 5)
  | _, _ => false

theorem kindOk_regOk {k : Kind} {r : Reg} (h : kindOk k r = true) : regOk r = true := by
  cases k <;> cases r <;> simp only [kindOk, decide_eq_true_eq, Bool.false_eq_true] at h <;>
    (simp only [regOk, Reg.classIdx]; rw [if_neg (by omega)])

theorem tyMatch_num {t : Lang.Ty} (h : tyMatch .num t = true) : isNumTy t = true := by
  cases t <;> simp_all [tyMatch, isNumTy]

theorem tyMatch_bool {t : Lang.Ty} (h : tyMatch .bool t = true) : isBoolTy t = true := by
  cases t <;> simp_all [tyMatch, isBoolTy]

theorem tyMatch_not_name {τ : Ty} {t : Lang.Ty} (h : tyMatch τ t = true) (s : Name) : t ≠ .name s := by
  intro e; subst e; cases τ <;> cases h

/-- every name of `Γ` is bound to a register of its kind, inside the encoder's index range, whose
recorded type is the type `Γ` gives -/
def Fwd (Γ : Env) (named : List (Name × Reg)) : Prop :=
  ∀ x k τ, lookup x Γ = some (k, τ) →
    ∃ r, regGet x named = some r ∧ kindOk k r = true ∧ tyMatch τ r.getType = true

def resTy : Ty → Lang.Ty
  | .num => .num none
  | .bool => .bool none

theorem combine_sig {o : Op} {a res : Ty} (hs : opSig o = some (a, res)) (is : List Instr) {left right : Reg}
    (hl : tyMatch a left.getType = true) (hr : tyMatch a right.getType = true) (sc : Scope) :
    combine o is left right sc =
      .ok ⟨is ++ [{ res := .tmp (sc.tmp.length % 256) (resTy res), op := o.lower, left := left, right := right }],
           .tmp (sc.tmp.length % 256) (resTy res),
           { sc with tmp := sc.tmp ++ [.tmp (sc.tmp.length % 256) (resTy res)] }⟩ := by
  have hk : ∃ ty, o.kind = .pure ty (resTy res) ∧ ∀ t, tyMatch a t = true → ty t = true := by
    cases o <;> cases hs <;> first
      | exact ⟨_, rfl, fun _ => tyMatch_num⟩
      | exact ⟨_, rfl, fun _ => tyMatch_bool⟩
  obtain ⟨ty, hk, hty⟩ := hk
  rw [combine_eq, hk]
  simp only [hty _ hl, hty _ hr]
  rfl

theorem opOk_lower {o : Op} {a res : Ty} (hs : opSig o = some (a, res)) : opOk o.lower = true := by
  cases o <;> simp only [opSig, reduceCtorEq] at hs <;> rfl

theorem kindOk_assignable {k : Kind} {r : Reg} (h : kindOk k r = true) (hk : notReadOnly k = true) :
    (isRC r || isTIL r) = true := by
  cases k <;> cases r <;> simp_all [kindOk, notReadOnly, isRC, isTIL]

theorem kindOk_var {r : Reg} (h : kindOk .var r = true) : isRC r = true := by
  cases r <;> simp_all [kindOk, isRC]

/-- the typing environment agrees with the register file -/
structure Inv (Γ : Env) (sc : Scope) : Prop where
  fwd : Fwd Γ sc.named
  /-- nothing else is bound: an unknown name gets a new local -/
  bwd : ∀ x, lookup x Γ = none → regGet x sc.named = none
  nloc : sc.numLocal = numLocals Γ
  flag : (lookup flagName Γ).isSome = true

theorem lookup_cons (y : Name) (x : Name) (kt : Kind × Ty) (Γ : Env) :
    lookup y ((x, kt) :: Γ) = if x = y then some kt else lookup y Γ := rfl

theorem lookup_eq (x : Name) (Γ : Env) : lookup x Γ = List.lookup x Γ :=
  Assoc.eq_lookup (fun _ => rfl) (fun _ _ _ _ => rfl) x Γ

theorem tmps_guard {o : Op} (ho : o = .if ∨ o = .notIf ∨ o = .ewma) (c v : Expr) :
    tmps (.sexp o c v) = tmps c + tmps v := by
  rcases ho with rfl | rfl | rfl <;> simp [tmps, opSig]

theorem Inv.clearTmps {Γ : Env} {sc : Scope} (hi : Inv Γ sc) : Inv Γ sc.clearTmps :=
  ⟨hi.fwd, hi.bwd, hi.nloc, hi.flag⟩

theorem instrOk_setLastRes {is : List Instr} {r : Reg} (h : ∀ i ∈ is, instrOk i = true) (hr : regOk r = true) :
    ∀ i ∈ setLastRes is r, instrOk i = true :=
  forall_setLastRes h fun i hi => by
    simp only [instrOk, Bool.and_eq_true] at hi ⊢
    exact ⟨⟨⟨hi.1.1.1, hr⟩, hi.1.2⟩, hi.2⟩

end Portus.Lang.Typing
