import PortusModel.Wire.Ctl
import PortusModel.Wire.LibccpRead
import PortusModel.Lemmas.WireEnc
/-! libccp's reader applied to portus' control-message encodings: the register encoder and the
three message encoders inverted, the record lists read back, `ccp_read_msg` on a framed message. -/
namespace Portus.Wire
open Portus Portus.Lang

/-! ## `Reg::into_iter` inverted, one equation per kind of register -/
section
variable {c i j n : Nat} {t : Ty} {vol b : Bool}

theorem classIdx_of_le {B C : Nat} :
    (if j > B then Out.err else Out.ok (C, j)) = .ok (c, i) ↔ j ≤ B ∧ c = C ∧ i = j := by
  split <;> simp [eq_comm] <;> omega

theorem classIdx_control :
    (Reg.control j t vol).classIdx = .ok (c, i) ↔ j ≤ 15 ∧ c = (if vol then 8 else 0) ∧ i = j := classIdx_of_le

theorem classIdx_report :
    (Reg.report j t vol).classIdx = .ok (c, i) ↔ j ≤ 15 ∧ c = (if vol then 5 else 6) ∧ i = j := classIdx_of_le

theorem classIdx_implicit : (Reg.implicit j t).classIdx = .ok (c, i) ↔ j ≤ 5 ∧ c = 2 ∧ i = j := classIdx_of_le

theorem classIdx_local : (Reg.local j t).classIdx = .ok (c, i) ↔ j ≤ 5 ∧ c = 3 ∧ i = j := classIdx_of_le

theorem classIdx_primitive : (Reg.primitive j t).classIdx = .ok (c, i) ↔ j ≤ 15 ∧ c = 4 ∧ i = j := classIdx_of_le

theorem classIdx_tmp : (Reg.tmp j t).classIdx = .ok (c, i) ↔ j ≤ 7 ∧ c = 7 ∧ i = j := classIdx_of_le

theorem classIdx_immBool : (Reg.immBool b).classIdx = .ok (c, i) ↔ c = 1 ∧ i = (if b then 1 else 0) := by
  simp [Reg.classIdx, eq_comm]

theorem classIdx_immNum :
    (Reg.immNum n).classIdx = .ok (c, i) ↔ (n = 2^64 - 1 ∨ n < 2^31) ∧ c = 1 ∧ i = n % 2^32 := by
  simp only [Reg.classIdx]; split <;> simp [eq_comm, *]

theorem classIdx_none : Reg.none.classIdx = .ok (c, i) ↔ False := by simp [Reg.classIdx, unreachableP]

end

theorem classIdx_bounds {r : Reg} {c i : Nat} (h : r.classIdx = .ok (c, i)) : c ≤ 8 ∧ i < 2^32 := by
  cases r <;> simp only [classIdx_control, classIdx_report, classIdx_implicit, classIdx_local, classIdx_primitive,
    classIdx_tmp, classIdx_immBool, classIdx_immNum, classIdx_none] at h <;> (try split at h) <;> omega

theorem Reg.serialize_eq {r : Reg} {c i : Nat} (h : r.classIdx = .ok (c, i)) :
    r.serialize = .ok (byte c :: le32 i) := by
  simp [Reg.serialize, h]

theorem Reg.serialize_eq_ok {r : Reg} {b : Bytes} :
    r.serialize = .ok b ↔ ∃ c i, r.classIdx = .ok (c, i) ∧ b = byte c :: le32 i := by
  simp only [Reg.serialize, Out.bind_eq_ok, Out.pure_eq, Out.ok.injEq, Prod.exists, @eq_comm _ b]

theorem _root_.Portus.Lang.Reg.classIdx_ne_panic {r : Reg} (h : r ≠ .none) : r.classIdx ≠ .panic := by
  cases r with
  | none => exact absurd rfl h
  | immBool b => nofun
  | _ =>
    simp only [Reg.classIdx]
    split <;> nofun

theorem _root_.Portus.Lang.Reg.serialize_ne_panic {r : Reg} (h : r ≠ .none) : r.serialize ≠ .panic :=
  Out.bind_no_panic _ _ (Reg.classIdx_ne_panic h) fun _ _ => nofun

theorem serializeUpdates_ne_panic (rs : List (Reg × Nat)) (h : ∀ r ∈ rs, r.1 ≠ .none) :
    serializeUpdates rs ≠ .panic := by
  induction rs with
  | nil => simp [serializeUpdates]
  | cons r rest ih =>
    obtain ⟨reg, v⟩ := r
    simp only [serializeUpdates]
    exact Out.bind_no_panic _ _ (Reg.serialize_ne_panic (h (reg, v) (by simp))) fun _ _ =>
      Out.bind_no_panic _ _ (ih fun x hx => h x (by simp [hx])) fun _ _ => by simp

/-- libccp's update records `us` are exactly the (class, index, value) triples of `fields` -/
def updsMatch : List (Reg × Nat) → List Libccp.Upd → Prop
  | [], [] => True
  | (r, v) :: ps, u :: us => r.classIdx = .ok (u.cls, u.idx) ∧ u.val = v ∧ updsMatch ps us
  | _, _ => False

theorem readUpds_serializeUpdates (fields : List (Reg × Nat)) (b : Bytes)
    (hv : ∀ p ∈ fields, p.2 < 2^64) (h : serializeUpdates fields = .ok b) :
    b.length = 13 * fields.length ∧ updsMatch fields (Libccp.readUpds fields.length b) := by
  induction fields generalizing b with
  | nil => cases h; exact ⟨rfl, trivial⟩
  | cons p ps ih =>
    obtain ⟨r, v⟩ := p
    simp only [serializeUpdates, Out.bind_eq_ok, Out.pure_eq, Out.ok.injEq, Reg.serialize_eq_ok] at h
    obtain ⟨_, ⟨c, i, hci, rfl⟩, tail, ht, rfl⟩ := h
    obtain ⟨hc, hi⟩ := classIdx_bounds hci
    obtain ⟨ihl, ihr⟩ := ih tail (fun q hq => hv q (List.mem_cons_of_mem _ hq)) ht
    have hv' : v < 2^64 := hv (r, v) List.mem_cons_self
    refine ⟨by simp [ihl]; omega, ?_⟩
    simp only [List.length_cons, Libccp.readUpds, updsMatch, List.cons_append, wire,
      Nat.mod_eq_of_lt (show c < 256 by omega), Nat.mod_eq_of_lt hi, Nat.mod_eq_of_lt hv']
    exact ⟨hci, trivial, ihr⟩

/-- an event record as libccp holds it: `struct ExpressionMsg` has four `u32`, so the record arrives as written only
if its fields are below `2^32` (`evInRange`) -/
def evToLibccp (e : EvRec) : Libccp.Expr :=
  { condStart := e.flagIdx, numCond := e.numFlag, eventStart := e.bodyIdx, numEvent := e.numBody }

def evInRange (e : EvRec) : Prop :=
  e.flagIdx < 2^32 ∧ e.numFlag < 2^32 ∧ e.bodyIdx < 2^32 ∧ e.numBody < 2^32

theorem events_bytes_length (evs : List EvRec) : (evs.flatMap EvRec.serialize).length = 16 * evs.length := by
  rw [List.length_flatMap, List.map_congr_left (g := fun _ => 16) fun e _ => show e.serialize.length = 16 from rfl,
    List.map_const', List.sum_replicate_nat, Nat.mul_comm]

theorem readExprs_serialize (evs : List EvRec) (rest : Bytes) (h : ∀ e ∈ evs, evInRange e) :
    Libccp.readExprs evs.length (evs.flatMap EvRec.serialize ++ rest) = evs.map evToLibccp := by
  induction evs with
  | nil => rfl
  | cons e es ih =>
    obtain ⟨h1, h2, h3, h4⟩ := h e List.mem_cons_self
    simp only [List.flatMap_cons, List.length_cons, Libccp.readExprs, List.map_cons, EvRec.serialize, wire,
      ih (fun x hx => h x (List.mem_cons_of_mem _ hx)), evToLibccp, Nat.mod_eq_of_lt h1, Nat.mod_eq_of_lt h2,
      Nat.mod_eq_of_lt h3, Nat.mod_eq_of_lt h4]

/-- libccp's instruction record `m` is exactly the encoding of `i` -/
def instrMatch (i : Instr) (m : Libccp.InstrMsg) : Prop :=
  serializeOp i.op = .ok m.opcode ∧ i.res.classIdx = .ok (m.resT, m.resI) ∧
  i.left.classIdx = .ok (m.leftT, m.leftI) ∧ i.right.classIdx = .ok (m.rightT, m.rightI)

def instrsMatch : List Instr → List Libccp.InstrMsg → Prop
  | [], [] => True
  | i :: is, m :: ms => instrMatch i m ∧ instrsMatch is ms
  | _, _ => False

theorem instrsMatch_iff {is : List Instr} {ms : List Libccp.InstrMsg} :
    instrsMatch is ms ↔
      ms.length = is.length ∧ ∀ (k : Nat) i m, is[k]? = some i → ms[k]? = some m → instrMatch i m := by
  induction is generalizing ms with
  | nil => cases ms <;> simp [instrsMatch]
  | cons j rest ih =>
    cases ms with
    | nil => simp [instrsMatch]
    | cons m ms =>
      simp only [instrsMatch, ih, List.length_cons, Nat.add_right_cancel_iff]
      constructor
      · rintro ⟨h1, l, g⟩
        refine ⟨l, fun k i m' hi hm => ?_⟩
        cases k with
        | zero =>
          simp only [List.getElem?_cons_zero, Option.some.injEq] at hi hm
          subst hi; subst hm; exact h1
        | succ k => exact g k i m' (by simpa using hi) (by simpa using hm)
      · rintro ⟨l, g⟩
        exact ⟨g 0 j m rfl rfl, l, fun k i m' hi hm => g (k + 1) i m' (by simpa using hi) (by simpa using hm)⟩

theorem serializeOp_bound {o : Op} {c : Nat} (h : serializeOp o = .ok c) : c ≤ 14 := by
  cases o <;> simp [serializeOp, unreachableP] at h <;> omega

theorem Instr.serialize_ok {i : Instr} {b : Bytes} (h : i.serialize = .ok b) :
    ∃ o c1 i1 c2 i2 c3 i3, serializeOp i.op = .ok o ∧ i.res.classIdx = .ok (c1, i1) ∧
      i.left.classIdx = .ok (c2, i2) ∧ i.right.classIdx = .ok (c3, i3) ∧
      b = byte o :: ((byte c1 :: le32 i1) ++ (byte c2 :: le32 i2) ++ (byte c3 :: le32 i3)) := by
  unfold Instr.serialize at h
  split at h
  case h_5 o a b' c ho h1 h2 h3 =>
    obtain ⟨c1, i1, e1, rfl⟩ := Reg.serialize_eq_ok.mp h1
    obtain ⟨c2, i2, e2, rfl⟩ := Reg.serialize_eq_ok.mp h2
    obtain ⟨c3, i3, e3, rfl⟩ := Reg.serialize_eq_ok.mp h3
    exact ⟨o, c1, i1, c2, i2, c3, i3, ho, e1, e2, e3, (Out.ok.inj h).symm⟩
  all_goals cases h

theorem readInstrs_serialize (is : List Instr) (b rest : Bytes) (h : serializeInstrs is = .ok b) :
    b.length = 16 * is.length ∧ instrsMatch is (Libccp.readInstrs is.length (b ++ rest)) := by
  induction is generalizing b with
  | nil => cases h; exact ⟨rfl, trivial⟩
  | cons i is ih =>
    simp only [serializeInstrs, Out.bind_eq_ok, Out.pure_eq, Out.ok.injEq] at h
    obtain ⟨ib, hi, tail, ht, rfl⟩ := h
    obtain ⟨o, c1, i1, c2, i2, c3, i3, eo, e1, e2, e3, rfl⟩ := Instr.serialize_ok hi
    obtain ⟨ihl, ihr⟩ := ih tail ht
    have ho := serializeOp_bound eo
    obtain ⟨b1, j1⟩ := classIdx_bounds e1
    obtain ⟨b2, j2⟩ := classIdx_bounds e2
    obtain ⟨b3, j3⟩ := classIdx_bounds e3
    refine ⟨by simp [ihl]; omega, ?_⟩
    simp only [List.length_cons, Libccp.readInstrs, instrsMatch, instrMatch, List.cons_append, wire,
      Nat.mod_eq_of_lt (show o < 256 by omega), Nat.mod_eq_of_lt (show c1 < 256 by omega),
      Nat.mod_eq_of_lt (show c2 < 256 by omega), Nat.mod_eq_of_lt (show c3 < 256 by omega),
      Nat.mod_eq_of_lt j1, Nat.mod_eq_of_lt j2, Nat.mod_eq_of_lt j3]
    exact ⟨⟨eo, e1, e2, e3⟩, ihr⟩

/-! ## the three control encoders inverted

The header's length field is computed from the *count fields* (`numFields`, `numEvents`, `numInstrs`), the bytes from
the *record lists*: `serialize*_length` give the true length, whatever the counts say. -/

theorem serializeChangeProg_eq_ok {m : ChangeProg} {b : Bytes} :
    serializeChangeProg m = .ok b ↔ 16 + m.numFields * 13 ≤ 65535 ∧ ∃ ub, serializeUpdates m.fields = .ok ub ∧
      b = serializeHeader CHANGEPROG (8 + 4 + 4 + m.numFields * 13) m.sid ++
        (le32 m.uid ++ le32 m.numFields ++ ub) := by
  unfold serializeChangeProg u32LenP
  split
  · simp only [reduceCtorEq, false_iff]; omega
  · rw [serializeWith_eq_ok]
    cases serializeUpdates m.fields <;> simp <;> omega

theorem serializeUpdateField_eq_ok {m : UpdateField} {b : Bytes} :
    serializeUpdateField m = .ok b ↔ 12 + m.numFields * 13 ≤ 65535 ∧ ∃ ub, serializeUpdates m.fields = .ok ub ∧
      b = serializeHeader UPDATE_FIELD (8 + 4 + m.numFields * 13) m.sid ++ (le32 m.numFields ++ ub) := by
  unfold serializeUpdateField
  rw [serializeWith_eq_ok]
  cases serializeUpdates m.fields <;> simp <;> omega

theorem serializeInstall_eq_ok {m : Install} {b : Bytes} :
    serializeInstall m = .ok b ↔ 20 + (m.numEvents * 16 + m.numInstrs * 16) ≤ 65535 ∧
      ∃ ib, serializeInstrs m.bin.instrs = .ok ib ∧
      b = serializeHeader INSTALL (8 + 12 + (m.numEvents * 16 + m.numInstrs * 16)) m.sid ++
        (le32 m.uid ++ le32 m.numEvents ++ le32 m.numInstrs ++ (m.bin.events.flatMap EvRec.serialize ++ ib)) := by
  unfold serializeInstall u32LenP
  split
  · simp only [reduceCtorEq, false_iff]; omega
  · rw [serializeWith_eq_ok]
    unfold Bin.serialize
    cases serializeInstrs m.bin.instrs <;> simp <;> omega

theorem serializeChangeProg_length {m : ChangeProg} {b : Bytes} (h : serializeChangeProg m = .ok b)
    (hv : ∀ p ∈ m.fields, p.2 < 2^64) : b.length = 16 + 13 * m.fields.length := by
  obtain ⟨_, ub, hub, rfl⟩ := serializeChangeProg_eq_ok.mp h
  simp [(readUpds_serializeUpdates m.fields ub hv hub).1]; omega

theorem serializeUpdateField_length {m : UpdateField} {b : Bytes} (h : serializeUpdateField m = .ok b)
    (hv : ∀ p ∈ m.fields, p.2 < 2^64) : b.length = 12 + 13 * m.fields.length := by
  obtain ⟨_, ub, hub, rfl⟩ := serializeUpdateField_eq_ok.mp h
  simp [(readUpds_serializeUpdates m.fields ub hv hub).1]; omega

theorem serializeChangeProg_hdr {m : ChangeProg} {b : Bytes} (h : serializeChangeProg m = .ok b) :
    rd16 b = 4 ∧ rd32 (b.drop 4) = m.sid % 2^32 ∧ rd32 (b.drop 8) = m.uid % 2^32 := by
  obtain ⟨_, ub, _, rfl⟩ := serializeChangeProg_eq_ok.mp h
  simp only [wire, CHANGEPROG]
  exact ⟨trivial, trivial, trivial⟩

theorem serializeUpdateField_hdr {m : UpdateField} {b : Bytes} (h : serializeUpdateField m = .ok b) :
    rd16 b = 3 ∧ rd32 (b.drop 4) = m.sid % 2^32 := by
  obtain ⟨_, ub, _, rfl⟩ := serializeUpdateField_eq_ok.mp h
  simp only [wire, UPDATE_FIELD]
  exact ⟨trivial, trivial⟩

theorem serializeInstall_length {m : Install} {b : Bytes} (h : serializeInstall m = .ok b) :
    b.length = 20 + 16 * (m.bin.events.length + m.bin.instrs.length) := by
  obtain ⟨_, ib, hib, rfl⟩ := serializeInstall_eq_ok.mp h
  simp only [List.length_append, serializeHeader_length, le32_length, events_bytes_length,
    (readInstrs_serialize m.bin.instrs ib [] hib).1]
  omega

end Portus.Wire

namespace Portus
open Portus.Wire

theorem Libccp.readMsg_frame (t l s : Nat) (p : Bytes) (ht : t < 65536) (hs : s < 2^32)
    (hl : l ≤ 8 + p.length) (hl' : l ≤ 32678) :
    Libccp.readMsg (serializeHeader t l s ++ p) =
      match t with
      | 2 => some (.install s (rd32 p) (Libccp.readExprs (rd32 (p.drop 4)) (p.drop 12))
          (Libccp.readInstrs (rd32 (p.drop 8)) (p.drop (12 + 16 * rd32 (p.drop 4)))))
      | 3 => if Libccp.signedByteAsU32 (bAt p 0) > 222 then none
        else some (.updateFields s (Libccp.readUpds (Libccp.signedByteAsU32 (bAt p 0)) (p.drop 4)))
      | 4 => if rd32 (p.drop 4) > 222 then none
        else some (.changeProg s (rd32 p) (Libccp.readUpds (rd32 (p.drop 4)) (p.drop 8)))
      | _ => none := by
  have m1 : t % 65536 = t := Nat.mod_eq_of_lt ht
  have m2 : l % 65536 = l := Nat.mod_eq_of_lt (by omega)
  have m3 : s % 4294967296 = s := Nat.mod_eq_of_lt hs
  have hlen : (serializeHeader t l s ++ p).length = 8 + p.length := by simp
  unfold Libccp.readMsg
  simp only [hdr_typ, hdr_len, hdr_sid, hdr_drop _ _ _ 0, List.drop_zero, hlen, m1, m2, m3,
    Libccp.BIGGEST_MSG_SIZE, Libccp.MAX_MUTABLE_REG]
  rw [if_neg (by omega)]
  by_cases h : t ≠ 2 ∧ t ≠ 3 ∧ t ≠ 4
  · rw [if_pos h]
    split
    · exact absurd rfl h.1
    · exact absurd rfl h.2.1
    · exact absurd rfl h.2.2
    · rfl
  · rw [if_neg h, if_neg (by omega), if_neg (by omega)]
    have : t = 2 ∨ t = 3 ∨ t = 4 := by omega
    rcases this with rfl | rfl | rfl <;> rfl

end Portus
