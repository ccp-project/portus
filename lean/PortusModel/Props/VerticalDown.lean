import PortusModel.Props.C06Acts
import PortusModel.Props.C11
/-!
# From `update_field(name, value)` to the datapath register — C11, C06 and the libccp model composed

The control direction of `Props/Vertical`:

* `Datapath::update_field` resolves the name through the scope to the control register and builds ONE update-fields message with
  the requested value (`C11.update_field_spec`);
* libccp reads that message exactly, stages the pair, and applies it before the program runs at the next `ccp_invoke`
  (`C06.update_takes_effect`).
-/
namespace Portus.Vertical
open Portus Portus.Lang Portus.Wire Portus.Vm Portus.Rt

/-- **update by name reaches the register.** `name` is bound in the scope to control register `k ≤ 15` (any type, volatile or
not), is not reserved, `v` is a 32-bit value as the API takes it, the flow `sid` exists in the datapath with no program switch
staged and its program installed: the call succeeds, libccp accepts the bytes (return code 0), and the next invocation starts from
a state in which control register `k` — read through either class — holds `v`. -/
theorem update_by_name_reaches_register (sc : Scope) (sid : Nat) (name : Name) (v : Nat) (k : Nat) (t : Ty) (vol : Bool)
    (dp : Dp) (c : Conn) (p : Program) (now : Val) (prims : Prims)
    (hget : sc.get name = some (.control k t vol)) (hres : "__".toList.isPrefixOf name = false)
    (hk : k ≤ 15) (hv : v < 2^32) (hsid : sid < 2^32)
    (hc : getConn dp sid = some c) (hst : c.staged = none) (hp : lookupIndex dp c.programIndex = some p)
    (hk1 : k < c.regs.control.length) (hk2 : k < c.pending.control.length) :
    ∃ bytes dp', updateField sc sid [(name, v)] = .ok bytes ∧
      readMsg dp bytes = (dp', 0) ∧
      (∃ r, invoke dp' sid now prims = some r) ∧
      readReg ⟨now, 0, prims⟩ (C06.afterUpdate c [(.control k t vol, v)] prims) ⟨0, k⟩ = UInt64.ofNat v ∧
      readReg ⟨now, 0, prims⟩ (C06.afterUpdate c [(.control k t vol, v)] prims) ⟨8, k⟩ = UInt64.ofNat v := by
  have hreg := Reg.serialize_eq (classIdx_control.mpr ⟨hk, rfl, rfl⟩ : (Reg.control k t vol).classIdx = .ok _)
  obtain ⟨bytes, hb⟩ : ∃ bytes, serializeUpdateField ⟨sid, 1, [(.control k t vol, v)]⟩ = .ok bytes :=
    ⟨_, serializeUpdateField_eq_ok.mpr ⟨(by decide : 12 + 1 * 13 ≤ 65535), _, by simp only [serializeUpdates, hreg]; rfl, rfl⟩⟩
  have hu : C11.updatable sc name = true := by simp only [C11.updatable, hres, hget]; rfl
  have hr : C11.regOf sc name = .control k t vol := by simp only [C11.regOf, hget]; rfl
  have hupd : updateField sc sid [(name, v)] = .ok bytes := by
    rw [C11.update_field_spec]
    simp only [List.all_cons, List.all_nil, hu, List.map_cons, List.map_nil, hr]
    exact hb
  have hlast : C06.lastOf (C06.namesCtl k) [(Reg.control k t vol, v)] = some v := by
    simp only [C06.lastOf, C06.namesCtl, beq_self_eq_true, if_true]
  obtain ⟨dp', e1, e2, e3, e4⟩ := C06.update_takes_effect dp sid c ⟨sid, 1, [(.control k t vol, v)]⟩ bytes p k v now prims
    ⟨rfl, hsid, List.forall_mem_singleton.mpr (show v < 2^64 by omega)⟩ rfl hc hb (by simp)
    (List.forall_mem_singleton.mpr rfl) hst hp hk1 hk2 hlast
  exact ⟨bytes, dp', hupd, e1, ⟨_, e2⟩, e3, e4⟩

end Portus.Vertical
