import PortusModel.Lang.Compile
import PortusModel.Lemmas.Assoc
/-!
# The register file and `Scope`

A scope is read through `Scope.get` only: `regGet` is a lookup in an association list (`Lemmas/Assoc`), and nothing
assumes the list sorted. `declareAll` and `applyUpdates` are given as closed forms on lookups; whatever the compiler
does to a scope afterwards is a `Step`, so what every step preserves (`Reach.preserves`: the slot of a binding,
distinct names `NamesNodup`, the locals `LocalsInv`, agreement of registers with the scope `Known`) holds of every
run. The `Def` preamble is read once, as `defInstrs l = l.filterMap defOf`.
-/
namespace Portus.Lang
open Portus

theorem strLt_irrefl (s : List Char) : strLt s s = false := by
  induction s with
  | nil => rfl
  | cons a as ih => simp [strLt, ih]

theorem ne_of_strLt {s n : List Char} (h : strLt s n = true) : s ≠ n := by
  intro e; subst e; rw [strLt_irrefl] at h; cases h

/-- for `Lemmas/Templates`, the one place that uses the order of the file -/
theorem strLt_trans {a b c : List Char} (h1 : strLt a b = true) (h2 : strLt b c = true) : strLt a c = true := by
  induction a generalizing b c with
  | nil =>
    cases b with
    | nil => cases h1
    | cons y bs =>
      cases c with
      | nil => cases h2
      | cons z cs => rfl
  | cons x as ih =>
    cases b with
    | nil => cases h1
    | cons y bs =>
      cases c with
      | nil => cases h2
      | cons z cs =>
        simp only [strLt] at h1 h2 ⊢
        by_cases xy : x.toNat < y.toNat
        · split at h2
          · exact if_pos (by omega)
          · split at h2
            · cases h2
            · exact if_pos (by omega)
        · rw [if_neg xy] at h1
          split at h1
          · cases h1
          · split at h2
            · exact if_pos (by omega)
            · split at h2
              · cases h2
              · rw [if_neg (by omega), if_neg (by omega)]
                exact ih h1 h2

@[simp] theorem regGet_nil (n : Name) : regGet n [] = none := rfl

theorem regGet_cons (n s : Name) (x : Reg) (l : List (Name × Reg)) :
    regGet n ((s, x) :: l) = if s = n then some x else regGet n l := rfl

theorem regGet_eq_lookup (n : Name) (l : List (Name × Reg)) : regGet n l = l.lookup n :=
  Assoc.eq_lookup (fun _ => rfl) (fun _ _ _ _ => rfl) n l

def regNames (l : List (Name × Reg)) : List Name := l.map (·.1)

theorem regGet_some_mem {n : Name} {r : Reg} {l : List (Name × Reg)} (h : regGet n l = some r) : (n, r) ∈ l :=
  Assoc.mem_of_lookup (regGet_eq_lookup n l ▸ h)

theorem regGet_eq_none_iff {n : Name} {l : List (Name × Reg)} : regGet n l = Option.none ↔ n ∉ regNames l := by
  rw [regGet_eq_lookup, List.lookup_eq_none_iff]
  simp only [regNames, List.mem_map, not_exists, not_and, bne_iff_ne, ne_eq]
  exact ⟨fun h p hp e => h p hp e.symm, fun h p hp e => h p hp e.symm⟩

theorem regGet_of_mem_nodup {n : Name} {r : Reg} {l : List (Name × Reg)} (hnd : (regNames l).Nodup)
    (hm : (n, r) ∈ l) : regGet n l = some r :=
  (regGet_eq_lookup n l).trans (Assoc.lookup_of_mem_nodup l hnd n r hm)

/-- what the lookup, length and name lemmas below use of `RegFile::insert` (no sortedness assumption on the file): the
entry goes somewhere behind entries with smaller, hence other, names. `regSet_regInsert_self` and the `cons` case of
`defInstrs_regInsert` (`Lemmas/Literals`) follow the recursion of `regInsert` itself. -/
theorem regInsert_split (n : Name) (l : List (Name × Reg)) :
    ∃ l₁ l₂, l = l₁ ++ l₂ ∧ (∀ p ∈ l₁, strLt p.1 n = true) ∧ ∀ r, regInsert n r l = l₁ ++ (n, r) :: l₂ := by
  induction l with
  | nil => exact ⟨[], [], rfl, fun _ h => (nomatch h), fun _ => rfl⟩
  | cons p rest ih =>
    obtain ⟨s, x⟩ := p
    by_cases h : strLt s n = true
    · obtain ⟨l₁, l₂, e, h1, h2⟩ := ih
      refine ⟨(s, x) :: l₁, l₂, by rw [e]; rfl, List.forall_mem_cons.mpr ⟨h, h1⟩, fun r => ?_⟩
      rw [regInsert, if_pos h, h2]; rfl
    · exact ⟨[], (s, x) :: rest, rfl, fun _ h => (nomatch h), fun r => by simp only [regInsert, if_neg h]; rfl⟩

theorem regGet_regInsert (m n : Name) (r : Reg) (l : List (Name × Reg)) :
    regGet m (regInsert n r l) = if m = n then some r else regGet m l := by
  obtain ⟨l₁, l₂, rfl, h1, h2⟩ := regInsert_split n l
  rw [h2, regGet_eq_lookup, regGet_eq_lookup, List.lookup_append, List.lookup_append, List.lookup_cons]
  by_cases e : m = n
  · subst e
    have : l₁.lookup m = none := List.lookup_eq_none_iff.mpr fun p hp => bne_iff_ne.mpr (ne_of_strLt (h1 p hp)).symm
    simp [this]
  · rw [beq_false_of_ne e, if_neg e]

theorem regGet_regInsert_self (n : Name) (r : Reg) (l : List (Name × Reg)) :
    regGet n (regInsert n r l) = some r := by
  rw [regGet_regInsert, if_pos rfl]

theorem regGet_regInsert_ne {m n : Name} (h : m ≠ n) (r : Reg) (l : List (Name × Reg)) :
    regGet m (regInsert n r l) = regGet m l := by
  rw [regGet_regInsert, if_neg h]

theorem regInsert_length (n : Name) (r : Reg) (l : List (Name × Reg)) :
    (regInsert n r l).length = l.length + 1 := by
  obtain ⟨l₁, l₂, rfl, -, h2⟩ := regInsert_split n l
  rw [h2]
  simp only [List.length_append, List.length_cons]
  omega

theorem regNames_regInsert_perm (n : Name) (r : Reg) (l : List (Name × Reg)) :
    (regNames (regInsert n r l)).Perm (n :: regNames l) := by
  obtain ⟨l₁, l₂, rfl, -, h2⟩ := regInsert_split n l
  rw [h2]
  simp only [regNames, List.map_append, List.map_cons]
  exact List.perm_middle

theorem nodup_regInsert {n : Name} {r : Reg} {l : List (Name × Reg)} (hnd : (regNames l).Nodup)
    (hn : n ∉ regNames l) : (regNames (regInsert n r l)).Nodup :=
  (regNames_regInsert_perm n r l).nodup_iff.mpr (List.nodup_cons.mpr ⟨hn, hnd⟩)

theorem regGet_regSet_self (n : Name) (r : Reg) (l : List (Name × Reg)) :
    regGet n (regSet n r l) = if (regGet n l).isSome then some r else none := by
  induction l with
  | nil => rfl
  | cons p rest ih =>
    obtain ⟨s, x⟩ := p
    unfold regSet
    split
    · rename_i h; simp [regGet_cons, h]
    · rename_i h; simp only [regGet_cons, if_neg h, ih]

theorem regGet_regSet_ne {m n : Name} (h : m ≠ n) (r : Reg) (l : List (Name × Reg)) :
    regGet m (regSet n r l) = regGet m l := by
  induction l with
  | nil => rfl
  | cons p rest ih =>
    obtain ⟨s, x⟩ := p
    unfold regSet
    split
    · rename_i hs
      have : s ≠ m := fun e => h (e.symm.trans hs)
      rw [regGet_cons, regGet_cons, if_neg this, if_neg this]
    · rw [regGet_cons, regGet_cons, ih]

theorem regGet_regSet (m n : Name) (r : Reg) (l : List (Name × Reg)) :
    regGet m (regSet n r l) = if m = n then (if (regGet n l).isSome then some r else none) else regGet m l := by
  split
  · rename_i h; subst h; exact regGet_regSet_self _ _ _
  · rename_i h; exact regGet_regSet_ne h _ _

theorem regSet_regInsert_self (n : Name) (r r' : Reg) (l : List (Name × Reg)) :
    regSet n r' (regInsert n r l) = regInsert n r' l := by
  induction l with
  | nil => simp [regInsert, regSet]
  | cons p rest ih =>
    obtain ⟨s, x⟩ := p
    unfold regInsert
    split
    · rename_i h
      rw [regSet, if_neg (ne_of_strLt h), ih]
    · rw [regSet, if_pos rfl]

theorem regSet_length (n : Name) (r : Reg) (l : List (Name × Reg)) : (regSet n r l).length = l.length := by
  induction l with
  | nil => rfl
  | cons p rest ih =>
    obtain ⟨s, x⟩ := p
    unfold regSet
    split <;> simp [ih]

theorem regNames_regSet (n : Name) (r : Reg) (l : List (Name × Reg)) : regNames (regSet n r l) = regNames l := by
  induction l with
  | nil => rfl
  | cons p rest ih =>
    obtain ⟨s, x⟩ := p
    unfold regSet
    split
    · rfl
    · simp only [regNames, List.map_cons] at ih ⊢; rw [ih]

/-- The register file of `Scope::new()`, in the (name-sorted) order in which it is stored: the
libccp index of a primitive / implicit register is its position in `primitiveNames` /
`implicitNames`. -/
def builtinTable : List (String × Reg) :=
  [ ("Ack.bytes_acked", .primitive 0 (.num none)),
    ("Ack.bytes_misordered", .primitive 1 (.num none)),
    ("Ack.ecn_bytes", .primitive 2 (.num none)),
    ("Ack.ecn_packets", .primitive 3 (.num none)),
    ("Ack.lost_pkts_sample", .primitive 4 (.num none)),
    ("Ack.now", .primitive 5 (.num none)),
    ("Ack.packets_acked", .primitive 6 (.num none)),
    ("Ack.packets_misordered", .primitive 7 (.num none)),
    ("Cwnd", .implicit 4 (.num none)),
    ("Flow.bytes_in_flight", .primitive 8 (.num none)),
    ("Flow.bytes_pending", .primitive 9 (.num none)),
    ("Flow.packets_in_flight", .primitive 10 (.num none)),
    ("Flow.rate_incoming", .primitive 11 (.num none)),
    ("Flow.rate_outgoing", .primitive 12 (.num none)),
    ("Flow.rtt_sample_us", .primitive 13 (.num none)),
    ("Flow.was_timeout", .primitive 14 (.bool none)),
    ("Micros", .implicit 3 (.num none)),
    ("Rate", .implicit 5 (.num none)),
    ("__eventFlag", .implicit 0 (.bool none)),
    ("__shouldContinue", .implicit 1 (.bool none)),
    ("__shouldReport", .implicit 2 (.bool none)) ]

def builtinNamed : List (Name × Reg) := builtinTable.map fun p => (p.1.toList, p.2)

/-- The only evaluation of `Scope::new()`. What else is needed of the fresh scope is read off `builtinTable`,
whose names stay `String` literals: converting a name to its characters is what kernel evaluation pays for. -/
theorem Scope.new_table : (Scope.new 0).named = builtinNamed ∧ (regNames builtinNamed).Nodup := by
  decide +kernel

/-- (the register file of `Scope.new uid` does not mention the uid, so the fact about uid 0 is the fact about every uid) -/
theorem Scope.new_named (uid : Nat) : (Scope.new uid).named = builtinNamed := Scope.new_table.1

theorem builtinNamed_nodup : (regNames builtinNamed).Nodup := Scope.new_table.2

theorem Scope.new_get (uid : Nat) (n : Name) : (Scope.new uid).get n = regGet n builtinNamed := by
  rw [Scope.get, Scope.new_named]

theorem mem_builtinNamed {s : String} {r : Reg} (h : (s, r) ∈ builtinTable) : (s.toList, r) ∈ builtinNamed :=
  List.mem_map.mpr ⟨(s, r), h, rfl⟩

theorem Scope.new_get_of_mem (uid : Nat) {s : String} {r : Reg} (h : (s, r) ∈ builtinTable) :
    (Scope.new uid).get s.toList = some r := by
  rw [Scope.new_get]
  exact regGet_of_mem_nodup builtinNamed_nodup (mem_builtinNamed h)

theorem Scope.new_get_mem (uid : Nat) {n : Name} {r : Reg} (h : (Scope.new uid).get n = some r) :
    ∃ s, (s, r) ∈ builtinTable ∧ s.toList = n := by
  rw [Scope.new_get] at h
  obtain ⟨p, hp, e⟩ := List.mem_map.mp (regGet_some_mem h)
  cases e
  exact ⟨p.1, hp, rfl⟩

theorem Scope.new_get_eq_none (uid : Nat) {s : String} (h : ∀ p ∈ builtinTable, p.1 ≠ s) :
    (Scope.new uid).get s.toList = Option.none := by
  refine Option.eq_none_iff_forall_ne_some.mpr fun r hg => ?_
  obtain ⟨t, ht, e⟩ := Scope.new_get_mem uid hg
  exact absurd (String.toList_inj.mp e) (h _ ht)

theorem flag_mem_builtinTable : ("__eventFlag", Reg.implicit 0 (.bool none)) ∈ builtinTable := by
  decide

/-- the shape of the registers of `Scope::new`: primitive or implicit, no recorded value, no name type (a test of
shape, not of membership: the index is not looked at) -/
def isBuiltinReg : Reg → Bool
  | .primitive _ (.num none) => true
  | .primitive _ (.bool none) => true
  | .implicit _ (.num none) => true
  | .implicit _ (.bool none) => true
  | _ => false

theorem Scope.new_get_builtin {uid : Nat} {n : Name} {r : Reg} (h : (Scope.new uid).get n = some r) :
    isBuiltinReg r = true := by
  obtain ⟨s, hs, -⟩ := Scope.new_get_mem uid h
  have : ∀ p ∈ builtinTable, isBuiltinReg p.2 = true := by decide
  exact this _ hs

theorem isBuiltinReg_not_name {r : Reg} (h : isBuiltinReg r = true) (s : Name) : r.getType ≠ .name s := by
  intro e
  unfold isBuiltinReg at h
  split at h
  all_goals first | cases e | cases h

/-- the register with its recorded type replaced, for the three classes `update_type` accepts -/
def Reg.setTy (r : Reg) (t : Ty) : Option Reg :=
  match r with
  | .report i _ v => some (.report i t v)
  | .local i _ => some (.local i t)
  | .control i _ v => some (.control i t v)
  | _ => Option.none

/-- class, index and volatility of a register: the recorded type of a report / control / local
register is erased, everything else is kept as it is -/
def Reg.slot : Reg → Reg
  | .report i _ v => .report i .none v
  | .control i _ v => .control i .none v
  | .local i _ => .local i .none
  | r => r

def Reg.isLocal : Reg → Bool
  | .local .. => true
  | _ => false

theorem Reg.setTy_slot {r r' : Reg} {t : Ty} (h : r.setTy t = some r') : r'.slot = r.slot := by
  cases r <;> simp only [Reg.setTy, Option.some.injEq, reduceCtorEq] at h <;> subst h <;> rfl

theorem Reg.setTy_getType {r r' : Reg} {t : Ty} (h : r.setTy t = some r') : r'.getType = t := by
  cases r <;> simp only [Reg.setTy, Option.some.injEq, reduceCtorEq] at h <;> subst h <;> rfl

theorem Reg.setTy_isLocal {r r' : Reg} {t : Ty} (h : r.setTy t = some r') : r'.isLocal = r.isLocal := by
  cases r <;> simp only [Reg.setTy, Option.some.injEq, reduceCtorEq] at h <;> subst h <;> rfl

/-- registers in the same slot differ at most in the recorded type -/
theorem Reg.eq_of_slot {r r' : Reg} (h : r'.slot = r.slot) : r' = (r.setTy r'.getType).getD r := by
  cases r <;> cases r' <;> cases h <;> rfl

theorem Reg.slot_builtin {r r' : Reg} (hb : isBuiltinReg r = true) (h : r'.slot = r.slot) : r' = r := by
  rw [Reg.eq_of_slot h]
  cases r <;> first | rfl | cases hb

theorem Reg.isLocal_iff {r : Reg} : r.isLocal = true ↔ ∃ i t, r = .local i t := by
  cases r <;> simp [Reg.isLocal]

theorem Reg.isLocal_of_slot {r r' : Reg} (h : r'.slot = r.slot) : r'.isLocal = r.isLocal := by
  rw [Reg.eq_of_slot h]
  cases r <;> rfl

theorem Scope.newReport_eq (sc : Scope) (vol : Bool) (n : Name) (t : Ty) :
    sc.newReport vol n t =
      if sc.numPerm + 1 < 256 then
        .ok { sc with numPerm := sc.numPerm + 1, named := regInsert n (.report sc.numPerm t vol) sc.named }
      else .panic := by
  unfold Scope.newReport incU8P
  split <;> rfl

theorem Scope.newControl_eq (sc : Scope) (vol : Bool) (n : Name) (t : Ty) :
    sc.newControl vol n t =
      if sc.numControl + 1 < 256 then
        .ok { sc with numControl := sc.numControl + 1, named := regInsert n (.control sc.numControl t vol) sc.named }
      else .panic := by
  unfold Scope.newControl incU8P
  split <;> rfl

theorem Scope.newLocal_eq (sc : Scope) (n : Name) (t : Ty) :
    sc.newLocal n t =
      if sc.numLocal + 1 < 256 then
        .ok (.local sc.numLocal t,
             { sc with numLocal := sc.numLocal + 1, named := regInsert n (.local sc.numLocal t) sc.named })
      else .panic := by
  unfold Scope.newLocal incU8P
  split <;> rfl

theorem Scope.updateType_eq (sc : Scope) (n : Name) (t : Ty) :
    sc.updateType n t =
      match (sc.get n).bind (·.setTy t) with
      | some r' => .ok (r', { sc with named := regSet n r' sc.named })
      | none => .err := by
  unfold Scope.updateType Scope.get
  cases regGet n sc.named with
  | none => rfl
  | some r => cases r <;> rfl

theorem Scope.updateType_ok {sc sc' : Scope} {n : Name} {t : Ty} {r' : Reg}
    (h : sc.updateType n t = .ok (r', sc')) :
    ∃ r, sc.get n = some r ∧ r.setTy t = some r' ∧ sc' = { sc with named := regSet n r' sc.named } := by
  rw [Scope.updateType_eq] at h
  split at h
  · rename_i r'' hb
    cases h
    obtain ⟨r, hg, hs⟩ := Option.bind_eq_some_iff.mp hb
    exact ⟨r, hg, hs, rfl⟩
  · cases h

theorem regGet_regSet_of_bound {sc : Scope} {n : Name} {r : Reg} (hb : sc.get n = some r) (r' : Reg) (m : Name) :
    regGet m (regSet n r' sc.named) = if m = n then some r' else sc.get m := by
  rw [regGet_regSet]
  split
  · have : regGet n sc.named = some r := hb
    simp [this]
  · rfl

/-! ## The declaration pass

`declareAll` is a guard and then `insertDecls reportDecl` over the `Report.` declarations and
`insertDecls controlDecl` over the others. -/

/-- declare `ds` in order, the `k`-th as `mk (i + k)` -/
def insertDecls (mk : Nat → Decl → Reg) : List Decl → Nat → List (Name × Reg) → List (Name × Reg)
  | [], _, l => l
  | d :: ds, i, l => insertDecls mk ds (i + 1) (regInsert d.var (mk i d) l)

def reportDecl (i : Nat) (d : Decl) : Reg := .report i d.init d.vol
def controlDecl (i : Nat) (d : Decl) : Reg := .control i d.init d.vol

theorem regGet_insertDecls_of_not_mem {mk : Nat → Decl → Reg} {ds : List Decl} {n : Name}
    (hn : ∀ d ∈ ds, d.var ≠ n) (i : Nat) (l : List (Name × Reg)) :
    regGet n (insertDecls mk ds i l) = regGet n l := by
  induction ds generalizing i l with
  | nil => rfl
  | cons d ds ih =>
    rw [insertDecls, ih (fun d' hd' => hn d' (List.mem_cons_of_mem _ hd')),
      regGet_regInsert_ne (Ne.symm (hn d List.mem_cons_self))]

theorem regGet_insertDecls_getElem {mk : Nat → Decl → Reg} {ds : List Decl} (hnd : (ds.map (·.var)).Nodup)
    (i : Nat) (l : List (Name × Reg)) (k : Nat) (hk : k < ds.length) :
    regGet ds[k].var (insertDecls mk ds i l) = some (mk (i + k) ds[k]) := by
  induction ds generalizing i l k with
  | nil => cases hk
  | cons d ds ih =>
    simp only [List.map_cons, List.nodup_cons] at hnd
    cases k with
    | zero =>
      rw [insertDecls, List.getElem_cons_zero, regGet_insertDecls_of_not_mem, regGet_regInsert_self]; rfl
      exact fun d' hd' e => hnd.1 (List.mem_map.mpr ⟨d', hd', e⟩)
    | succ k =>
      rw [insertDecls, List.getElem_cons_succ, ih hnd.2, Nat.add_right_comm, Nat.add_assoc]

theorem regGet_insertDecls_cases {mk : Nat → Decl → Reg} {ds : List Decl} {n : Name} {r : Reg} {i : Nat}
    {l : List (Name × Reg)} (h : regGet n (insertDecls mk ds i l) = some r) :
    regGet n l = some r ∨ ∃ d ∈ ds, d.var = n ∧ ∃ j, r = mk j d := by
  induction ds generalizing i l with
  | nil => exact .inl h
  | cons d ds ih =>
    rcases ih h with h | ⟨d', hd', e⟩
    · rw [regGet_regInsert] at h
      split at h
      · cases h; exact .inr ⟨d, List.mem_cons_self, (‹n = d.var›).symm, i, rfl⟩
      · exact .inl h
    · exact .inr ⟨d', List.mem_cons_of_mem _ hd', e⟩

theorem foldlM_newReport_eq (rs : List Decl) (sc : Scope) (h : sc.numPerm + rs.length ≤ 255) :
    rs.foldlM (fun sc d => sc.newReport d.vol d.var d.init) sc =
      .ok { sc with numPerm := sc.numPerm + rs.length, named := insertDecls reportDecl rs sc.numPerm sc.named } := by
  induction rs generalizing sc with
  | nil => rfl
  | cons d rs ih =>
    simp only [List.length_cons] at h
    rw [List.foldlM_cons, Scope.newReport_eq, if_pos (by omega), Out.bind_ok,
      ih _ (by show sc.numPerm + 1 + _ ≤ _; omega)]
    simp only [List.length_cons, insertDecls, reportDecl, Nat.add_assoc, Nat.add_comm 1]

theorem foldlM_newControl_eq (cs : List Decl) (sc : Scope) (h : sc.numControl + cs.length ≤ 255) :
    cs.foldlM (fun sc d => sc.newControl d.vol d.var d.init) sc =
      .ok { sc with numControl := sc.numControl + cs.length,
                    named := insertDecls controlDecl cs sc.numControl sc.named } := by
  induction cs generalizing sc with
  | nil => rfl
  | cons d cs ih =>
    simp only [List.length_cons] at h
    rw [List.foldlM_cons, Scope.newControl_eq, if_pos (by omega), Out.bind_ok,
      ih _ (by show sc.numControl + 1 + _ ≤ _; omega)]
    simp only [List.length_cons, insertDecls, controlDecl, Nat.add_assoc, Nat.add_comm 1]

/-- the `Report`-block declarations (their names were prefixed with `Report.` by `defs`) … -/
abbrev reportsOf (ds : List Decl) : List Decl := ds.filter fun d => "Report.".toList.isPrefixOf d.var
/-- … and the others, each in declaration order -/
abbrev controlsOf (ds : List Decl) : List Decl := ds.filter fun d => !("Report.".toList.isPrefixOf d.var)

theorem report_control_ne {ds : List Decl} {r c : Decl} (hr : r ∈ reportsOf ds) (hc : c ∈ controlsOf ds) :
    r.var ≠ c.var := by
  intro e
  have h1 := (List.mem_filter.mp hr).2
  have h2 := (List.mem_filter.mp hc).2
  rw [← e, h1] at h2
  cases h2

theorem mem_reportsOf_or_controlsOf {ds : List Decl} {d : Decl} (hd : d ∈ ds) :
    (∃ k, ∃ hk : k < (reportsOf ds).length, (reportsOf ds)[k] = d) ∨
    (∃ k, ∃ hk : k < (controlsOf ds).length, (controlsOf ds)[k] = d) := by
  by_cases hp : "Report.".toList.isPrefixOf d.var = true
  · exact .inl (List.mem_iff_getElem.mp (List.mem_filter.mpr ⟨hd, hp⟩))
  · exact .inr (List.mem_iff_getElem.mp
      (List.mem_filter.mpr ⟨hd, by rw [Bool.not_eq_true] at hp; rw [hp]; rfl⟩))

/-- from a scope without report and control registers (`Scope::new()`) the guard is the only way to fail -/
theorem declareAll_eq (sc : Scope) (ds : List Decl) (h0 : sc.numPerm = 0 ∧ sc.numControl = 0) :
    declareAll sc ds =
      if (reportsOf ds).length > 255 ∨ (controlsOf ds).length > 255 then .err
      else .ok { sc with
        numPerm := (reportsOf ds).length, numControl := (controlsOf ds).length,
        named := insertDecls controlDecl (controlsOf ds) 0 (insertDecls reportDecl (reportsOf ds) 0 sc.named) } := by
  unfold declareAll
  simp only
  split
  · rfl
  · rw [foldlM_newReport_eq _ _ (by omega), Out.bind_ok,
      foldlM_newControl_eq _ _ (by show sc.numControl + _ ≤ _; omega)]
    simp only [h0.1, h0.2, Nat.zero_add]

theorem declareAll_ne_panic (sc : Scope) (ds : List Decl) (h0 : sc.numPerm = 0 ∧ sc.numControl = 0) :
    declareAll sc ds ≠ .panic := by
  rw [declareAll_eq sc ds h0]
  split <;> nofun

theorem declareAll_ok {sc sc' : Scope} {ds : List Decl} (h0 : sc.numPerm = 0 ∧ sc.numControl = 0)
    (h : declareAll sc ds = .ok sc') :
    (reportsOf ds).length ≤ 255 ∧ (controlsOf ds).length ≤ 255 ∧
    sc' = { sc with
      numPerm := (reportsOf ds).length, numControl := (controlsOf ds).length,
      named := insertDecls controlDecl (controlsOf ds) 0 (insertDecls reportDecl (reportsOf ds) 0 sc.named) } := by
  rw [declareAll_eq sc ds h0] at h
  split at h <;> cases h
  exact ⟨by omega, by omega, rfl⟩

theorem declareAll_all {P : Reg → Prop} {sc sc' : Scope} {ds : List Decl} (hz : sc.numPerm = 0 ∧ sc.numControl = 0)
    (h : declareAll sc ds = .ok sc') (hP : ∀ d ∈ ds, ∀ i, P (.report i d.init d.vol) ∧ P (.control i d.init d.vol))
    (h0 : ∀ n r, sc.get n = some r → P r) : ∀ n r, sc'.get n = some r → P r := by
  obtain ⟨-, -, rfl⟩ := declareAll_ok hz h
  intro n r hg
  rcases regGet_insertDecls_cases hg with hg | ⟨d, hd, -, j, rfl⟩
  · rcases regGet_insertDecls_cases hg with hg | ⟨d, hd, -, j, rfl⟩
    · exact h0 n r hg
    · exact (hP d (List.mem_filter.mp hd).1 j).1
  · exact (hP d (List.mem_filter.mp hd).1 j).2

theorem declareAll_get_of_not_mem {sc sc' : Scope} {ds : List Decl} (hz : sc.numPerm = 0 ∧ sc.numControl = 0)
    (h : declareAll sc ds = .ok sc') {n : Name} (hn : ∀ d ∈ ds, d.var ≠ n) : sc'.get n = sc.get n := by
  obtain ⟨-, -, rfl⟩ := declareAll_ok hz h
  exact (regGet_insertDecls_of_not_mem (fun d hd => hn d (List.mem_filter.mp hd).1) _ _).trans
    (regGet_insertDecls_of_not_mem (fun d hd => hn d (List.mem_filter.mp hd).1) _ _)

/-- value of the last occurrence of `n` in the override list -/
def lastVal (n : Name) : List (Name × Nat) → Option Nat
  | [] => Option.none
  | (m, v) :: rest =>
    match lastVal n rest with
    | some w => some w
    | Option.none => if m = n then some v else Option.none

/-- what an override does to a register: report / control / local registers get the literal type,
the others are left alone -/
def Reg.override (r : Reg) (v : Nat) : Reg :=
  match r with
  | .report i _ vol => .report i (.num (some v)) vol
  | .control i _ vol => .control i (.num (some v)) vol
  | .local i _ => .local i (.num (some v))
  | r => r

/-- what `applyUpdates` does to the binding of `n` (`applyUpdates_get`): the last override of `n` wins -/
def overrideSpec (upd : List (Name × Nat)) (n : Name) (r : Option Reg) : Option Reg :=
  match lastVal n upd with
  | Option.none => r
  | some v => r.map (·.override v)

theorem Reg.override_eq (r : Reg) (v : Nat) : r.override v = (r.setTy (.num (some v))).getD r := by
  cases r <;> rfl

theorem Reg.override_override (r : Reg) (v w : Nat) : (r.override v).override w = r.override w := by
  cases r <;> rfl

theorem Reg.override_slot (r : Reg) (v : Nat) : (r.override v).slot = r.slot := by
  cases r <;> rfl

theorem applyUpdates_counters (sc : Scope) (upd : List (Name × Nat)) :
    (applyUpdates sc upd).uid = sc.uid ∧ (applyUpdates sc upd).numPerm = sc.numPerm ∧
    (applyUpdates sc upd).numControl = sc.numControl ∧ (applyUpdates sc upd).numLocal = sc.numLocal ∧
    (applyUpdates sc upd).tmp = sc.tmp := by
  induction upd generalizing sc with
  | nil => simp [applyUpdates]
  | cons p rest ih =>
    obtain ⟨m, v⟩ := p
    unfold applyUpdates
    cases hu : sc.updateType m (.num (some v)) with
    | ok q =>
      obtain ⟨r', sc'⟩ := q
      obtain ⟨r, _, _, rfl⟩ := Scope.updateType_ok hu
      exact ih _
    | err | panic => exact ih sc

theorem applyUpdates_get (sc : Scope) (upd : List (Name × Nat)) (n : Name) :
    (applyUpdates sc upd).get n = overrideSpec upd n (sc.get n) := by
  induction upd generalizing sc with
  | nil => rfl
  | cons p rest ih =>
    obtain ⟨m, v⟩ := p
    unfold applyUpdates
    rw [Scope.updateType_eq]
    -- an override that fails, or names another variable, leaves the specification alone
    have key : ∀ (x : Option Reg), (m = n → x.map (·.override v) = x) →
        overrideSpec rest n x = overrideSpec ((m, v) :: rest) n x := by
      intro x hx
      unfold overrideSpec
      simp only [lastVal]
      cases lastVal n rest with
      | some w => rfl
      | none =>
        by_cases e : m = n
        · simp only [if_pos e]; exact (hx e).symm
        · simp only [if_neg e]
    cases hg : sc.get m with
    | none =>
      simp only [Option.bind_none]
      rw [ih]
      apply key
      intro e; subst e; rw [hg]; rfl
    | some r =>
      cases hs : r.setTy (.num (some v)) with
      | none =>
        simp only [Option.bind_some, hs]
        rw [ih]
        apply key
        intro e; subst e; rw [hg]; simp only [Option.map_some, Reg.override_eq, hs, Option.getD_none]
      | some r' =>
        simp only [Option.bind_some, hs]
        rw [ih]
        have hget : Scope.get { sc with named := regSet m r' sc.named } n
            = if n = m then some r' else sc.get n := regGet_regSet_of_bound hg r' n
        rw [hget]
        have hr' : r' = r.override v := by rw [Reg.override_eq, hs]; rfl
        by_cases e : n = m
        · subst e
          simp only [if_true, hg]
          unfold overrideSpec
          simp only [lastVal]
          cases lastVal n rest with
          | some w => simp only [Option.map_some, hr', Reg.override_override]
          | none => simp only [if_true, Option.map_some, hr']
        · simp only [if_neg e]
          exact key _ (fun e' => absurd e'.symm e)

theorem applyUpdates_single {sc sc' : Scope} {n : Name} {v : Nat} {r : Reg}
    (h : sc.updateType n (.num (some v)) = .ok (r, sc')) : applyUpdates sc [(n, v)] = sc' := by
  simp only [applyUpdates, h]

/-- the last occurrence: the first one read from the back -/
theorem lastVal_eq_lookup (n : Name) (upd : List (Name × Nat)) : lastVal n upd = upd.reverse.lookup n := by
  induction upd with
  | nil => rfl
  | cons p rest ih =>
    obtain ⟨m, v⟩ := p
    rw [lastVal, ih, List.reverse_cons, List.lookup_append, List.lookup_cons, List.lookup_nil]
    cases rest.reverse.lookup n with
    | some w => rfl
    | none =>
      by_cases e : m = n
      · simp [e]
      · simp [e, beq_false_of_ne (Ne.symm e)]

theorem lastVal_eq_none_iff {n : Name} {upd : List (Name × Nat)} :
    lastVal n upd = Option.none ↔ ∀ p ∈ upd, p.1 ≠ n := by
  rw [lastVal_eq_lookup, List.lookup_eq_none_iff]
  simp only [List.mem_reverse, bne_iff_ne, ne_eq]
  exact ⟨fun h p hp e => h p hp e.symm, fun h p hp e => h p hp e.symm⟩

theorem lastVal_some_mem {n : Name} {upd : List (Name × Nat)} {v : Nat} (h : lastVal n upd = some v) :
    (n, v) ∈ upd :=
  List.mem_reverse.mp (Assoc.mem_of_lookup (lastVal_eq_lookup n upd ▸ h))

theorem applyUpdates_all {P : Reg → Prop} {sc : Scope} {upd : List (Name × Nat)}
    (hP : ∀ n v r, (n, v) ∈ upd → P r → P (r.override v)) (h0 : ∀ n r, sc.get n = some r → P r) :
    ∀ n r, (applyUpdates sc upd).get n = some r → P r := by
  intro n r hg
  rw [applyUpdates_get] at hg
  unfold overrideSpec at hg
  split at hg
  · exact h0 n r hg
  · obtain ⟨r0, h1, rfl⟩ := Option.map_eq_some_iff.mp hg
    exact hP n _ r0 (lastVal_some_mem ‹_›) (h0 n r0 h1)

theorem lastVal_eq_some_iff {n : Name} {upd : List (Name × Nat)} {v : Nat} :
    lastVal n upd = some v ↔ ∃ pre post, upd = pre ++ (n, v) :: post ∧ ∀ p ∈ post, p.1 ≠ n := by
  rw [lastVal_eq_lookup, List.lookup_eq_some_iff]
  constructor
  · rintro ⟨l₁, l₂, e, h⟩
    refine ⟨l₂.reverse, l₁.reverse, ?_, fun p hp => ?_⟩
    · rw [← List.reverse_reverse upd, e]; simp
    · exact (bne_iff_ne.mp (h p (List.mem_reverse.mp hp))).symm
  · rintro ⟨pre, post, rfl, h⟩
    exact ⟨post.reverse, pre.reverse, by simp, fun p hp => bne_iff_ne.mpr (h p (List.mem_reverse.mp hp)).symm⟩

/-! ## The scope transitions of the compiler

`Step F` is one of the three things the compiler does to a scope: change the temporaries, bind a
fresh local (`compileAtom` on an unbound name), replace a recorded type (`update_type` in the
`Bind` arm). `Reach F` is its reflexive-transitive closure. The parameter `F` switches on the finer
side condition "only locals are re-typed", which needs the invariant `NameInv` on the start scope;
with `F := False` the relation describes every run of the compiler from every scope.

`IsLocalAt sc s`: the name `s` is bound to a local register. -/

def IsLocalAt (sc : Scope) (s : Name) : Prop := ∃ j u, sc.get s = some (.local j u)

/-- a register whose recorded type is still a name points at a name bound to a local -/
def RegOk (r : Reg) (sc : Scope) : Prop := ∀ s, r.getType = .name s → IsLocalAt sc s

/-- every recorded type that is a name is the name of a local; under it `update_type` re-types locals only (the
side condition that `F` switches on) -/
def NameInv (sc : Scope) : Prop := ∀ n r, sc.get n = some r → RegOk r sc

inductive Step (F : Prop) : Scope → Scope → Prop
  | tmp (sc : Scope) (t : List Reg) : Step F sc { sc with tmp := t }
  | newLocal (sc : Scope) (n : Name) : sc.get n = Option.none → sc.numLocal + 1 < 256 →
      Step F sc { sc with numLocal := sc.numLocal + 1, named := regInsert n (.local sc.numLocal (.name n)) sc.named }
  | upd (sc : Scope) (n : Name) (t : Ty) (r r' : Reg) : sc.get n = some r → r.setTy t = some r' →
      (F → r.isLocal = true ∧ ∀ s, t = .name s → IsLocalAt sc s) →
      Step F sc { sc with named := regSet n r' sc.named }

inductive Reach (F : Prop) : Scope → Scope → Prop
  | refl (sc : Scope) : Reach F sc sc
  | step {sc sc1 sc2 : Scope} : Reach F sc sc1 → Step F sc1 sc2 → Reach F sc sc2

theorem Reach.trans {F : Prop} {a b c : Scope} (h1 : Reach F a b) (h2 : Reach F b c) : Reach F a c := by
  induction h2 with
  | refl => exact h1
  | step _ s ih => exact Reach.step ih s

theorem Reach.single {F : Prop} {a b : Scope} (s : Step F a b) : Reach F a b := Reach.step (Reach.refl _) s

theorem Reach.preserves {F : Prop} {I : Scope → Prop} (hs : ∀ {a b : Scope}, Step F a b → I a → I b)
    {sc sc' : Scope} (h : Reach F sc sc') (hi : I sc) : I sc' := by
  induction h with
  | refl => exact hi
  | step _ s ih => exact hs s ih

def localIdx : Option Reg → Option Nat
  | some (.local i _) => some i
  | _ => Option.none

theorem localIdx_eq_some {x : Option Reg} {i : Nat} : localIdx x = some i ↔ ∃ t, x = some (.local i t) := by
  cases x with
  | none => simp [localIdx]
  | some r => cases r <;> simp [localIdx]

theorem localIdx_of_slot {r r' : Reg} (h : r'.slot = r.slot) : localIdx (some r') = localIdx (some r) := by
  rw [Reg.eq_of_slot h]
  cases r <;> rfl

theorem Step.counters {F : Prop} {sc1 sc2 : Scope} (h : Step F sc1 sc2) :
    sc2.uid = sc1.uid ∧ sc2.numPerm = sc1.numPerm ∧ sc2.numControl = sc1.numControl := by
  cases h <;> exact ⟨rfl, rfl, rfl⟩

/-- every step keeps `get`, or binds an unbound name to the next local, or replaces the binding of
a bound name by a register in the same slot -/
theorem Step.get_cases {F : Prop} {sc1 sc2 : Scope} (h : Step F sc1 sc2) :
    (((∀ m, sc2.get m = sc1.get m) ∧ sc2.numLocal = sc1.numLocal) ∨
     (∃ n, (∀ m, sc2.get m = if m = n then some (.local sc1.numLocal (.name n)) else sc1.get m) ∧
        sc1.get n = Option.none ∧ sc2.numLocal = sc1.numLocal + 1 ∧ sc1.numLocal + 1 < 256) ∨
     (∃ n r r', (∀ m, sc2.get m = if m = n then some r' else sc1.get m) ∧
        sc1.get n = some r ∧ r'.slot = r.slot ∧ sc2.numLocal = sc1.numLocal ∧
        (F → r.isLocal = true ∧ RegOk r' sc1))) := by
  cases h with
  | tmp t => exact Or.inl ⟨fun _ => rfl, rfl⟩
  | newLocal n h1 h2 =>
    exact Or.inr (Or.inl ⟨n, fun m => regGet_regInsert m n _ _, h1, rfl, h2⟩)
  | upd n t r r' h1 h2 h3 =>
    refine Or.inr (Or.inr ⟨n, r, r', fun m => regGet_regSet_of_bound h1 r' m, h1,
      Reg.setTy_slot h2, rfl, fun hF => ⟨(h3 hF).1, ?_⟩⟩)
    intro s hs
    rw [Reg.setTy_getType h2] at hs
    exact (h3 hF).2 s hs

theorem Step.fwd {F : Prop} {sc1 sc2 : Scope} (h : Step F sc1 sc2) {n : Name} {r : Reg}
    (hg : sc1.get n = some r) : ∃ r', sc2.get n = some r' ∧ r'.slot = r.slot := by
  rcases h.get_cases with h | ⟨k, h, hk, _⟩ | ⟨k, x, x', h, hk, hs, _⟩
  · exact ⟨r, by rw [h.1, hg], rfl⟩
  · refine ⟨r, ?_, rfl⟩
    rw [h, if_neg, hg]
    intro e; subst e; rw [hk] at hg; cases hg
  · by_cases e : n = k
    · subst e; rw [hk] at hg; cases hg
      exact ⟨x', by rw [h, if_pos rfl], hs⟩
    · exact ⟨r, by rw [h, if_neg e, hg], rfl⟩

theorem Step.bwd {F : Prop} {sc1 sc2 : Scope} (h : Step F sc1 sc2) {n : Name} {r' : Reg}
    (hg : sc2.get n = some r') :
    (∃ r, sc1.get n = some r ∧ r'.slot = r.slot) ∨ (sc1.get n = Option.none ∧ r'.isLocal = true) := by
  rcases h.get_cases with h | ⟨k, h, hk, _⟩ | ⟨k, x, x', h, hk, hs, _⟩
  · exact Or.inl ⟨r', by rw [← h.1, hg], rfl⟩
  · rw [h] at hg
    split at hg
    · rename_i e; subst e; cases hg; exact Or.inr ⟨hk, rfl⟩
    · exact Or.inl ⟨r', hg, rfl⟩
  · rw [h] at hg
    split at hg
    · rename_i e; subst e; cases hg; exact Or.inl ⟨x, hk, hs⟩
    · exact Or.inl ⟨r', hg, rfl⟩

theorem Step.numLocal {F : Prop} {sc1 sc2 : Scope} (h : Step F sc1 sc2) :
    sc1.numLocal ≤ sc2.numLocal ∧ (sc1.numLocal ≤ 255 → sc2.numLocal ≤ 255) := by
  rcases h.get_cases with h | ⟨k, h, hk, e, _⟩ | ⟨k, x, x', h, hk, hs, e, _⟩
  · omega
  · omega
  · omega

/-- distinct local names have distinct indices below the counter, which fits a `u8` -/
structure LocalsInv (sc : Scope) : Prop where
  bound : ∀ n i t, sc.get n = some (.local i t) → i < sc.numLocal
  inj : ∀ n m i t u, sc.get n = some (.local i t) → sc.get m = some (.local i u) → n = m
  le : sc.numLocal ≤ 255

theorem localsInv_iff (sc : Scope) :
    LocalsInv sc ↔ (∀ n i, localIdx (sc.get n) = some i → i < sc.numLocal) ∧
      (∀ n m i, localIdx (sc.get n) = some i → localIdx (sc.get m) = some i → n = m) ∧
      sc.numLocal ≤ 255 := by
  constructor
  · intro h
    refine ⟨fun n i hi => ?_, fun n m i h1 h2 => ?_, h.le⟩
    · obtain ⟨t, ht⟩ := localIdx_eq_some.mp hi; exact h.bound n i t ht
    · obtain ⟨t, ht⟩ := localIdx_eq_some.mp h1
      obtain ⟨u, hu⟩ := localIdx_eq_some.mp h2
      exact h.inj n m i t u ht hu
  · rintro ⟨h1, h2, h3⟩
    exact ⟨fun n i t h => h1 n i (localIdx_eq_some.mpr ⟨t, h⟩),
      fun n m i t u ha hb => h2 n m i (localIdx_eq_some.mpr ⟨t, ha⟩) (localIdx_eq_some.mpr ⟨u, hb⟩), h3⟩

theorem Step.localsInv {F : Prop} {sc1 sc2 : Scope} (h : Step F sc1 sc2) (hi : LocalsInv sc1) :
    LocalsInv sc2 := by
  rw [localsInv_iff] at hi ⊢
  obtain ⟨b, inj, le⟩ := hi
  rcases h.get_cases with h | ⟨k, h, hk, e, lt⟩ | ⟨k, x, x', h, hk, hs, e, _⟩
  · simp only [h.1, h.2]; exact ⟨b, inj, le⟩
  · have hl : ∀ m, localIdx (sc2.get m) = if m = k then some sc1.numLocal else localIdx (sc1.get m) := by
      intro m; rw [h]; split <;> rfl
    simp only [hl, e]
    refine ⟨?_, ?_, by omega⟩
    · intro n i hn
      split at hn
      · cases hn; omega
      · have := b n i hn; omega
    · intro n m i hn hm
      split at hn <;> split at hm
      · rename_i e1 e2; rw [e1, e2]
      · cases hn; have := b m _ hm; omega
      · cases hm; have := b n _ hn; omega
      · exact inj n m i hn hm
  · have hl : ∀ m, localIdx (sc2.get m) = localIdx (sc1.get m) := by
      intro m; rw [h]
      split
      · rename_i e1; subst e1; rw [hk]; exact localIdx_of_slot hs
      · rfl
    simp only [hl, e]; exact ⟨b, inj, le⟩

theorem IsLocalAt.step {F : Prop} {sc1 sc2 : Scope} (h : Step F sc1 sc2) {s : Name} (hl : IsLocalAt sc1 s) :
    IsLocalAt sc2 s := by
  obtain ⟨j, u, hj⟩ := hl
  obtain ⟨r', h1, h2⟩ := h.fwd hj
  rw [Reg.eq_of_slot h2] at h1
  exact ⟨j, _, h1⟩

theorem RegOk.step {F : Prop} {sc1 sc2 : Scope} (h : Step F sc1 sc2) {r : Reg} (hr : RegOk r sc1) :
    RegOk r sc2 := fun s hs => (hr s hs).step h

theorem Step.keeps_nonLocal {F : Prop} (hF : F) {sc1 sc2 : Scope} (h : Step F sc1 sc2) {n : Name} {r : Reg}
    (hg : sc1.get n = some r) (hnl : r.isLocal = false) : sc2.get n = some r := by
  rcases h.get_cases with h' | ⟨k, h', hk, _⟩ | ⟨k, x, x', h', hk, hs, _, hf⟩
  · rw [h'.1, hg]
  · rw [h', if_neg, hg]
    intro e; subst e; rw [hk] at hg; cases hg
  · rw [h', if_neg, hg]
    intro e; subst e; rw [hk] at hg; cases hg
    rw [(hf hF).1] at hnl; cases hnl

theorem Step.nameInv {F : Prop} (hF : F) {sc1 sc2 : Scope} (h : Step F sc1 sc2) (hi : NameInv sc1) :
    NameInv sc2 := by
  intro n r hg
  rcases h.get_cases with h' | ⟨k, h', hk, _⟩ | ⟨k, x, x', h', hk, hs, _, hf⟩
  · rw [h'.1] at hg; exact (hi n r hg).step h
  · rw [h'] at hg
    split at hg
    · rename_i e; subst e; cases hg
      intro s hs
      cases hs
      exact ⟨_, _, by rw [h', if_pos rfl]⟩
    · exact (hi n r hg).step h
  · rw [h'] at hg
    split at hg
    · cases hg; exact (hf hF).2.step h
    · exact (hi n r hg).step h

theorem Reach.counters {F : Prop} {sc sc' : Scope} (h : Reach F sc sc') :
    sc'.uid = sc.uid ∧ sc'.numPerm = sc.numPerm ∧ sc'.numControl = sc.numControl ∧
    sc.numLocal ≤ sc'.numLocal := by
  induction h with
  | refl => exact ⟨rfl, rfl, rfl, Nat.le_refl _⟩
  | step _ s ih =>
    obtain ⟨a, b, c⟩ := s.counters
    have := s.numLocal.1
    exact ⟨a.trans ih.1, b.trans ih.2.1, c.trans ih.2.2.1, by omega⟩

theorem Reach.fwd {F : Prop} {sc sc' : Scope} (h : Reach F sc sc') {n : Name} {r : Reg}
    (hg : sc.get n = some r) : ∃ r', sc'.get n = some r' ∧ r'.slot = r.slot := by
  refine h.preserves (I := fun a => ∃ r', a.get n = some r' ∧ r'.slot = r.slot) (fun s ⟨r1, h1, h2⟩ => ?_) ⟨r, hg, rfl⟩
  obtain ⟨r2, h3, h4⟩ := s.fwd h1
  exact ⟨r2, h3, h4.trans h2⟩

theorem Reach.bwd {F : Prop} {sc sc' : Scope} (h : Reach F sc sc') {n : Name} {r' : Reg}
    (hg : sc'.get n = some r') :
    (∃ r, sc.get n = some r ∧ r'.slot = r.slot) ∨ (sc.get n = Option.none ∧ r'.isLocal = true) := by
  induction h generalizing r' with
  | refl => exact Or.inl ⟨r', hg, rfl⟩
  | step hr s ih =>
    rcases s.bwd hg with ⟨r1, h1, h2⟩ | ⟨h1, h2⟩
    · rcases ih h1 with ⟨r0, h3, h4⟩ | ⟨h3, h4⟩
      · exact Or.inl ⟨r0, h3, h2.trans h4⟩
      · exact Or.inr ⟨h3, by rw [Reg.isLocal_of_slot h2, h4]⟩
    · refine Or.inr ⟨Option.eq_none_iff_forall_ne_some.mpr fun r0 h0 => ?_, h2⟩
      obtain ⟨r1, h3, _⟩ := hr.fwd h0
      rw [h3] at h1; cases h1

theorem Reach.localsInv {F : Prop} {sc sc' : Scope} (h : Reach F sc sc') (hi : LocalsInv sc) :
    LocalsInv sc' :=
  h.preserves Step.localsInv hi

theorem RegOk.reach {F : Prop} {sc sc' : Scope} (h : Reach F sc sc') {r : Reg} (hr : RegOk r sc) :
    RegOk r sc' :=
  h.preserves (I := RegOk r) (fun st hr => hr.step st) hr

theorem Reach.keeps_nonLocal {F : Prop} (hF : F) {sc sc' : Scope} (h : Reach F sc sc') {n : Name} {r : Reg}
    (hg : sc.get n = some r) (hnl : r.isLocal = false) : sc'.get n = some r :=
  h.preserves (I := fun sc => sc.get n = some r) (fun s hg => s.keeps_nonLocal hF hg hnl) hg

theorem Reach.nameInv {F : Prop} (hF : F) {sc sc' : Scope} (h : Reach F sc sc') (hi : NameInv sc) :
    NameInv sc' :=
  h.preserves (Step.nameInv hF) hi

theorem RegOk.of_not_name {r : Reg} {sc : Scope} (h : ∀ s, r.getType ≠ .name s) : RegOk r sc :=
  fun s hs => absurd hs (h s)

theorem applyUpdates_reach (sc : Scope) (upd : List (Name × Nat)) : Reach False sc (applyUpdates sc upd) := by
  induction upd generalizing sc with
  | nil => exact Reach.refl _
  | cons p rest ih =>
    obtain ⟨m, v⟩ := p
    unfold applyUpdates
    cases hu : sc.updateType m (.num (some v)) with
    | ok q =>
      obtain ⟨r', sc'⟩ := q
      obtain ⟨r, h1, h2, rfl⟩ := Scope.updateType_ok hu
      exact (Reach.single (Step.upd sc m _ r r' h1 h2 (fun f => f.elim))).trans (ih _)
    | err | panic => exact ih sc

/-! ## Distinct names in the register file

`get` finds the first entry of a name; `defInstrs` walks all entries. They agree when no name
occurs twice, which holds for an accepted program with distinct, non-built-in declared names. -/

def NamesNodup (sc : Scope) : Prop := (regNames sc.named).Nodup

theorem NamesNodup.get_of_mem {sc : Scope} (h : NamesNodup sc) {n : Name} {r : Reg} (hm : (n, r) ∈ sc.named) :
    sc.get n = some r := regGet_of_mem_nodup h hm

theorem Scope.new_namesNodup (uid : Nat) : NamesNodup (Scope.new uid) := by
  unfold NamesNodup; rw [Scope.new_named]; exact builtinNamed_nodup

theorem nodup_insertDecls {mk : Nat → Decl → Reg} {ds : List Decl} (hnd : (ds.map (·.var)).Nodup)
    {i : Nat} {l : List (Name × Reg)} (hfresh : ∀ d ∈ ds, regGet d.var l = none) (h0 : (regNames l).Nodup) :
    (regNames (insertDecls mk ds i l)).Nodup := by
  induction ds generalizing i l with
  | nil => exact h0
  | cons d ds ih =>
    simp only [List.map_cons, List.nodup_cons] at hnd
    refine ih hnd.2 (fun d' hd' => ?_) (nodup_regInsert h0 (regGet_eq_none_iff.mp (hfresh d List.mem_cons_self)))
    rw [regGet_regInsert_ne (fun e => hnd.1 (List.mem_map.mpr ⟨d', hd', e⟩))]
    exact hfresh d' (List.mem_cons_of_mem _ hd')

theorem declareAll_namesNodup {uid : Nat} {ds : List Decl} {sc : Scope}
    (hnd : (ds.map (·.var)).Nodup) (hfresh : ∀ d ∈ ds, (Scope.new uid).get d.var = Option.none)
    (h : declareAll (Scope.new uid) ds = .ok sc) : NamesNodup sc := by
  obtain ⟨-, -, rfl⟩ := declareAll_ok ⟨rfl, rfl⟩ h
  refine nodup_insertDecls (Assoc.nodup_keys_filter ds _ hnd) (fun c hc => ?_)
    (nodup_insertDecls (Assoc.nodup_keys_filter ds _ hnd) (fun d hd => hfresh d (List.mem_filter.mp hd).1)
      (Scope.new_namesNodup uid))
  rw [regGet_insertDecls_of_not_mem (fun r hr => report_control_ne hr hc)]
  exact hfresh c (List.mem_filter.mp hc).1

theorem Step.namesNodup {F : Prop} {sc1 sc2 : Scope} (h : Step F sc1 sc2) (hi : NamesNodup sc1) :
    NamesNodup sc2 := by
  cases h with
  | tmp t => exact hi
  | newLocal n h1 h2 => exact nodup_regInsert hi (regGet_eq_none_iff.mp h1)
  | upd n t r r' h1 h2 h3 =>
    show (regNames (regSet n r' sc1.named)).Nodup
    rw [regNames_regSet]; exact hi

theorem Reach.namesNodup {F : Prop} {sc sc' : Scope} (h : Reach F sc sc') (hi : NamesNodup sc) :
    NamesNodup sc' :=
  h.preserves Step.namesNodup hi

/-! ## Registers that agree with a scope

`Known sc r`: a register of a class that is bound to names is, up to its recorded type, a binding of `sc`. -/

def Reg.isNamed : Reg → Bool
  | .report .. => true
  | .control .. => true
  | .local .. => true
  | .primitive .. => true
  | .implicit .. => true
  | _ => false

def Known (sc : Scope) (r : Reg) : Prop :=
  r.isNamed = true → ∃ n r', sc.get n = some r' ∧ r'.slot = r.slot

def KnownInstr (sc : Scope) (ins : Instr) : Prop :=
  Known sc ins.res ∧ Known sc ins.left ∧ Known sc ins.right

theorem Known.of_get {sc : Scope} {n : Name} {r : Reg} (h : sc.get n = some r) : Known sc r :=
  fun _ => ⟨n, r, h, rfl⟩

theorem Known.of_not_named {sc : Scope} {r : Reg} (h : r.isNamed = false) : Known sc r :=
  fun h' => by rw [h] at h'; cases h'

theorem Known.reach {F : Prop} {sc sc' : Scope} (h : Reach F sc sc') {r : Reg} (hk : Known sc r) :
    Known sc' r := by
  intro hn
  obtain ⟨n, r1, h1, h2⟩ := hk hn
  obtain ⟨r2, h3, h4⟩ := h.fwd h1
  exact ⟨n, r2, h3, h4.trans h2⟩

theorem KnownInstr.reach {F : Prop} {sc sc' : Scope} (h : Reach F sc sc') {ins : Instr}
    (hk : KnownInstr sc ins) : KnownInstr sc' ins :=
  ⟨hk.1.reach h, hk.2.1.reach h, hk.2.2.reach h⟩

/-! ## The `Def` preamble -/

def defNum (reg : Reg) (n : Nat) : Instr := { res := reg, op := .def, left := reg, right := .immNum n }
def defBool (reg : Reg) (b : Bool) : Instr := { res := reg, op := .def, left := reg, right := .immBool b }

/-- the `Def` instruction `defInstrs` emits for one binding -/
def defOf (p : Name × Reg) : Option Instr :=
  match p.2 with
  | .report _ (.num (some n)) _ | .control _ (.num (some n)) _ => some (defNum p.2 n)
  | .report _ (.bool (some b)) _ | .control _ (.bool (some b)) _ => some (defBool p.2 b)
  | _ => none

theorem defInstrs_eq_filterMap (l : List (Name × Reg)) : defInstrs l = l.filterMap defOf := by
  induction l with
  | nil => rfl
  | cons p rest ih =>
    obtain ⟨n, reg⟩ := p
    simp only [defInstrs, List.filterMap_cons, defOf]
    split <;> simp only [ih, defNum, defBool]

theorem defOf_num {x : Name} {reg : Reg} {n : Nat} (hrc : isRC reg = true) (ht : reg.getType = .num (some n)) :
    defOf (x, reg) = some (defNum reg n) := by
  cases reg <;> simp only [isRC, Reg.getType, Bool.false_eq_true] at hrc ht <;> subst ht <;> rfl

theorem defOf_bool {x : Name} {reg : Reg} {b : Bool} (hrc : isRC reg = true) (ht : reg.getType = .bool (some b)) :
    defOf (x, reg) = some (defBool reg b) := by
  cases reg <;> simp only [isRC, Reg.getType, Bool.false_eq_true] at hrc ht <;> subst ht <;> rfl

theorem defOf_some {p : Name × Reg} {ins : Instr} (h : defOf p = some ins) :
    isRC p.2 = true ∧
      ((∃ n, p.2.getType = .num (some n) ∧ ins = defNum p.2 n) ∨
       (∃ b, p.2.getType = .bool (some b) ∧ ins = defBool p.2 b)) := by
  unfold defOf at h
  split at h
  case h_1 e | h_2 e =>
    cases h
    rw [e]
    exact ⟨rfl, .inl ⟨_, rfl, rfl⟩⟩
  case h_3 e | h_4 e =>
    cases h
    rw [e]
    exact ⟨rfl, .inr ⟨_, rfl, rfl⟩⟩
  case h_5 => cases h

theorem defInstrs_shape {l : List (Name × Reg)} {ins : Instr} (h : ins ∈ defInstrs l) :
    ∃ name reg, (name, reg) ∈ l ∧ isRC reg = true ∧
      ((∃ n, reg.getType = .num (some n) ∧ ins = defNum reg n) ∨
       (∃ b, reg.getType = .bool (some b) ∧ ins = defBool reg b)) := by
  rw [defInstrs_eq_filterMap] at h
  obtain ⟨⟨x, reg⟩, hm, hd⟩ := List.mem_filterMap.mp h
  exact ⟨x, reg, hm, defOf_some hd⟩

theorem defInstrs_known {sc : Scope} {l : List (Name × Reg)} (hl : ∀ p ∈ l, sc.get p.1 = some p.2) :
    ∀ ins ∈ defInstrs l, KnownInstr sc ins := by
  intro ins hi
  obtain ⟨x, reg, hm, -, ⟨n, -, rfl⟩ | ⟨b, -, rfl⟩⟩ := defInstrs_shape hi <;>
    exact ⟨.of_get (hl _ hm), .of_get (hl _ hm), .of_not_named rfl⟩

end Portus.Lang
