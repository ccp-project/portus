import PortusModel.Lemmas.WireDec
import PortusModel.Lemmas.WireAttr
/-! What an encoder wrote reads back: the fixed-width fields and the header (simp set `wire`), `serializeWith` inverted,
a header followed by its body decoded. Every proof about a message's bytes starts here. -/
namespace Portus.Wire
open Portus

attribute [wire] rd16_le16_append rd32_le32_append rd64_le64_append List.append_assoc List.drop_zero
  List.nil_append List.append_nil bAt_cons_succ

@[wire] theorem drop_le16_append (x n : Nat) (r : Bytes) : (le16 x ++ r).drop (n + 2) = r.drop n := rfl
@[wire] theorem drop_le32_append (x n : Nat) (r : Bytes) : (le32 x ++ r).drop (n + 4) = r.drop n := rfl
@[wire] theorem drop_le64_append (x n : Nat) (r : Bytes) : (le64 x ++ r).drop (n + 8) = r.drop n := rfl
@[wire] theorem drop_byte_cons (x n : Nat) (r : Bytes) : (byte x :: r).drop (n + 1) = r.drop n := rfl
@[wire] theorem bAt_byte_cons (x : Nat) (r : Bytes) : bAt (byte x :: r) 0 = x % 256 := byte_toNat x
@[wire] theorem bAt_le32_append (x : Nat) (r : Bytes) : bAt (le32 x ++ r) 0 = x % 256 := byte_toNat x
@[wire] theorem bAt_le32_append_add (x n : Nat) (r : Bytes) : bAt (le32 x ++ r) (n + 4) = bAt r n := by
  simp only [le32, List.cons_append, List.nil_append, bAt_cons_succ]

@[simp] theorem serializeHeader_length (t l s : Nat) : (serializeHeader t l s).length = 8 := rfl

@[wire] theorem hdr_typ (t l s : Nat) (p : Bytes) : rd16 (serializeHeader t l s ++ p) = t % 65536 := by
  simp only [serializeHeader, wire]

@[wire] theorem hdr_len (t l s : Nat) (p : Bytes) : rd16 ((serializeHeader t l s ++ p).drop 2) = l % 65536 := by
  simp only [serializeHeader, wire]

@[wire] theorem hdr_sid (t l s : Nat) (p : Bytes) :
    rd32 ((serializeHeader t l s ++ p).drop 4) = s % 4294967296 := by
  simp only [serializeHeader, wire]

@[wire] theorem hdr_drop (t l s n : Nat) (p : Bytes) : (serializeHeader t l s ++ p).drop (n + 8) = p.drop n := rfl

theorem serializeWith_eq_ok {t l s : Nat} {body : Out Bytes} {b : Bytes} :
    serializeWith t l s body = .ok b ↔ l ≤ 65535 ∧ ∃ p, body = .ok p ∧ b = serializeHeader t l s ++ p := by
  unfold serializeWith
  split
  · simp only [reduceCtorEq, false_iff]; omega
  · cases body <;> simp [eq_comm] <;> omega

theorem serializeWith_ne_panic {t l s : Nat} {body : Out Bytes} (h : body ≠ .panic) :
    serializeWith t l s body ≠ .panic := by
  unfold serializeWith
  split
  · simp
  · exact Out.bind_no_panic body _ h fun _ _ => by simp

theorem deserialize_header_body (typ len sid : Nat) (body rest : Bytes)
    (ht : typ ≤ 255) (hs : sid < 2^32) (hl : len ≤ 65535) (hb : body.length + 8 = len) :
    deserialize (serializeHeader typ len sid ++ body ++ rest) =
      .ok { typ := typ, len := len, sid := sid, bytes := body } := by
  subst hb
  have hlen : (serializeHeader typ (body.length + 8) sid ++ (body ++ rest)).length
      = 8 + body.length + rest.length := by simp; omega
  have m1 : typ % 65536 = typ := Nat.mod_eq_of_lt (by omega)
  have m2 : (body.length + 8) % 65536 = body.length + 8 := Nat.mod_eq_of_lt (by omega)
  have m3 : sid % 4294967296 = sid := Nat.mod_eq_of_lt (by omega)
  rw [deserialize_eq]
  simp only [List.append_assoc, hdr_typ, hdr_len, hdr_sid, hlen, m1, m2, m3]
  rw [if_neg (by omega), hdr_drop _ _ _ 0, Nat.add_sub_cancel, List.drop_zero, List.take_left]

theorem nulPos_append_zero (name : Bytes) (tail : Bytes) (h : ∀ x ∈ name, x ≠ 0) :
    nulPos (name ++ 0 :: tail) = some name.length := by
  induction name with
  | nil => simp [nulPos]
  | cons x xs ih =>
    have hx : x ≠ 0 := h x (by simp)
    have := ih (fun y hy => h y (by simp [hy]))
    simp [nulPos, hx, this]

theorem fieldsSpec_flatMap (fields : List Nat) (h : ∀ f ∈ fields, f < 2^64) :
    fieldsSpec (fields.flatMap le64) = fields := by
  induction fields with
  | nil => rfl
  | cons f fs ih =>
    rw [fieldsSpec_step _ (by simp)]
    simp only [List.flatMap_cons, wire, drop_le64_append _ 0, ih (fun g hg => h g (List.mem_cons_of_mem _ hg)),
      Nat.mod_eq_of_lt (h f List.mem_cons_self)]

theorem flatMap_le64_length (fields : List Nat) : (fields.flatMap le64).length = 8 * fields.length := by
  rw [List.length_flatMap, List.map_congr_left fun a _ => le64_length a, List.map_const', List.sum_replicate_nat,
    Nat.mul_comm]

end Portus.Wire
