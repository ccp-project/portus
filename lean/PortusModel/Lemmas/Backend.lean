import PortusModel.Ipc.Backend
import PortusModel.Lemmas.WireDec
/-! The receive path yields a function of the datagram script alone. `next_spec` says what
one call of `Backend::next` does under the cursor invariant; everything else about `next` is read off it. -/
namespace Portus.Ipc
open Portus Portus.Wire

/-- The messages one datagram `s` from sender `a` denotes; the flag is `false` when a message failed to decode
(reception stops there). -/
def decodeSeq : Nat → Addr → Bytes → List (Msg × Addr) × Bool
  | 0, _, _ => ([], true)
  | f + 1, a, s =>
    if s.isEmpty then ([], true)
    else match fromBuf s with
      | .ok (m, n) => let r := decodeSeq f a (s.drop n); ((m, a) :: r.1, r.2)
      | _ => ([], false)

/-- **Specification of reception**: a function of the script only — no buffer, no cursors. 1024 is the size of
the receive buffer (`run.rs:507`, `[0u8; 1024]`): a longer datagram is cut there. -/
def specRun : List Rx → List (Msg × Addr)
  | [] => []
  | .stop :: _ => []
  | .recvErr :: r => specRun r
  | .sf _ :: r => specRun r
  | .dgram a d :: r =>
    let d' := d.take 1024
    if d'.length = 0 then specRun r
    else
      let q := decodeSeq (d'.length + 1) a d'
      if q.2 then q.1 ++ specRun r else q.1

/-- the cursor invariant -/
structure Inv (b : Backend) : Prop where
  len : b.buf.length = 1024
  ru : b.readUntil ≤ b.totRead
  tr : b.totRead ≤ 1024

theorem Inv.new {buf0 : Bytes} (h : buf0.length = 1024) : Inv (Backend.new buf0) :=
  ⟨h, Nat.le_refl 0, Nat.zero_le 1024⟩

/-- the bytes received and not yet parsed -/
def window (b : Backend) : Bytes := (b.buf.drop b.readUntil).take (b.totRead - b.readUntil)

/-- what is still to come from `b` and `rx`: the messages of the window, then (if the window decodes to its end)
those of the script. `next` takes the head off this list; that is the whole proof of `run_eq_spec`. -/
def pendingSpec (b : Backend) (rx : List Rx) : List (Msg × Addr) :=
  let q := decodeSeq ((window b).length + 1) b.lastAddr (window b)
  if q.2 then q.1 ++ specRun rx else q.1

/-- decreases with every message `next` yields -/
def measure (b : Backend) (rx : List Rx) : Nat := (b.totRead - b.readUntil) + rxFuel rx

theorem rxFuel_pos (rx : List Rx) : 0 < rxFuel rx := by
  cases rx with
  | nil => simp [rxFuel]
  | cons x r => cases x <;> simp [rxFuel] <;> omega

theorem fromBuf_consumed {s : Bytes} {m : Msg} {n : Nat} (h : fromBuf s = .ok (m, n)) (hs : s ≠ []) :
    1 ≤ n ∧ n ≤ s.length := by
  have : 0 < s.length := List.length_pos_iff.mpr hs
  rcases fromBuf_ok h with ⟨_, rfl⟩ | ⟨_, _, _, _, _, h8, hle, _⟩ <;> omega

theorem decodeSeq_fuel (f f' : Nat) (a : Addr) (s : Bytes) (h : s.length < f) (h' : s.length < f') :
    decodeSeq f a s = decodeSeq f' a s := by
  induction f generalizing f' s with
  | zero => omega
  | succ k ih =>
    cases f' with
    | zero => omega
    | succ k' =>
      unfold decodeSeq
      by_cases he : s.isEmpty
      · simp [he]
      · simp only [he]
        have hs : s ≠ [] := fun e => he (List.isEmpty_iff.mpr e)
        cases hfb : fromBuf s with
        | panic => rfl
        | err => rfl
        | ok p =>
          obtain ⟨m, n⟩ := p
          have ⟨h1, h2⟩ := fromBuf_consumed hfb hs
          have hl : (s.drop n).length < k := by simp; omega
          have hl' : (s.drop n).length < k' := by simp; omega
          simp only
          rw [ih k' _ hl hl']

theorem window_length (b : Backend) (h : Inv b) : (window b).length = b.totRead - b.readUntil := by
  have hl := h.len
  have hru := h.ru
  have htr := h.tr
  simp only [window, List.length_take, List.length_drop]
  omega

theorem parseAt_eq (b : Backend) (hinv : Inv b) (rx : List Rx) :
    parseAt b rx = match fromBuf (window b) with
      | .panic => .panic
      | .err => .ok (none, b, rx)
      | .ok (m, n) => .ok (some (m, b.lastAddr), { b with readUntil := b.readUntil + n }, rx) := by
  have hl := hinv.len
  have hru := hinv.ru
  have htr := hinv.tr
  unfold parseAt
  rw [sliceP_ok _ _ _ ⟨by omega, by omega⟩]
  rfl

theorem window_advance (b : Backend) (n : Nat) :
    window { b with readUntil := b.readUntil + n } = (window b).drop n := by
  show (b.buf.drop (b.readUntil + n)).take (b.totRead - (b.readUntil + n)) = _
  unfold window
  rw [List.drop_take, List.drop_drop]
  congr 1; omega

theorem parseAt_pending (b : Backend) (hinv : Inv b) (hlt : b.readUntil < b.totRead) (rx : List Rx) :
    (parseAt b rx = .ok (none, b, rx) ∧ pendingSpec b rx = []) ∨
    ∃ m n, 1 ≤ n ∧ b.readUntil + n ≤ b.totRead ∧
      parseAt b rx = .ok (some (m, b.lastAddr), { b with readUntil := b.readUntil + n }, rx) ∧
      pendingSpec b rx = (m, b.lastAddr) :: pendingSpec { b with readUntil := b.readUntil + n } rx := by
  have hwl := window_length b hinv
  have hne : window b ≠ [] := List.ne_nil_of_length_pos (by omega)
  have hemp : (window b).isEmpty = false := List.isEmpty_eq_false_iff.mpr hne
  rw [parseAt_eq b hinv]
  unfold pendingSpec
  rw [decodeSeq]
  cases hfb : fromBuf (window b) with
  | panic => exact absurd hfb (fromBuf_no_panic _)
  | err => exact Or.inl ⟨rfl, by simp [hemp]⟩
  | ok p =>
    obtain ⟨m, n⟩ := p
    have ⟨h1, h2⟩ := fromBuf_consumed hfb hne
    refine Or.inr ⟨m, n, h1, by omega, rfl, ?_⟩
    rw [window_advance, decodeSeq_fuel _ (window b).length _ _ (Nat.lt_succ_self _) (by simp; omega)]
    simp only [hemp, Bool.false_eq_true, if_false]
    split <;> rfl

/-- stated for a script `rx0` that `rx` is what is left of after skipped entries, so that skipping is the induction
hypothesis itself -/
theorem getNextRead_spec (b : Backend) (rx rx0 : List Rx) (hl : b.buf.length = 1024)
    (he : specRun rx0 = specRun rx) (hf : rxFuel rx ≤ rxFuel rx0) :
    match getNextRead b rx with
    | (none, _, _) => specRun rx0 = []
    | (some r, b', rx') =>
      0 < r ∧ r ≤ 1024 ∧ b'.buf.length = 1024 ∧ r + rxFuel rx' < rxFuel rx0 ∧
      specRun rx0 = (let q := decodeSeq (r + 1) b'.lastAddr (b'.buf.take r)
                     if q.2 then q.1 ++ specRun rx' else q.1) := by
  induction rx generalizing b with
  | nil => simpa [getNextRead, specRun] using he
  | cons x rest ih =>
    cases x with
    | stop => simpa [getNextRead, specRun] using he
    | recvErr => exact ih b hl he (by simp only [rxFuel] at hf; omega)
    | sf k => exact ih b hl he (by simp only [rxFuel] at hf; omega)
    | dgram a d =>
      simp only [rxFuel] at hf
      simp only [getNextRead, recvInto, hl]
      by_cases h0 : (d.take 1024).length = 0
      · have hd : d.take 1024 = [] := List.eq_nil_of_length_eq_zero h0
        simp only [h0, if_true]
        exact ih _ (by simp [hd, hl]) (by rw [he]; simp only [specRun, h0, if_true]) (by omega)
      · simp only [h0, if_false]
        have hle : (d.take 1024).length ≤ 1024 := by simp; omega
        refine ⟨by omega, hle, ?_, ?_, ?_⟩
        · simp [hl]; omega
        · simp at hle ⊢; omega
        · rw [he]
          simp only [specRun, h0, if_false]
          rw [List.take_left' rfl]

/-- The last conjunct (same script and a cursor moved on, or a shorter script) is for `C08.reception_advances`. -/
theorem next_spec (b : Backend) (hinv : Inv b) (rx : List Rx) :
    ∃ o b' rx', next b rx = .ok (o, b', rx') ∧
      match o with
      | none => pendingSpec b rx = []
      | some p => Inv b' ∧ pendingSpec b rx = p :: pendingSpec b' rx' ∧ measure b' rx' < measure b rx ∧
          ((rx' = rx ∧ b.readUntil < b'.readUntil ∧ b'.totRead = b.totRead) ∨ rxFuel rx' < rxFuel rx) := by
  have hl := hinv.len
  have htr := hinv.tr
  have hru := hinv.ru
  unfold next
  by_cases hlt : b.readUntil < b.totRead
  · rw [if_pos hlt]
    rcases parseAt_pending b hinv hlt rx with ⟨h, hp⟩ | ⟨m, n, h1, h2, h, hp⟩
    · exact ⟨_, _, _, h, hp⟩
    · refine ⟨_, _, _, h, ⟨hl, h2, htr⟩, hp, ?_, Or.inl ⟨rfl, Nat.lt_add_of_pos_right h1, rfl⟩⟩
      show b.totRead - (b.readUntil + n) + rxFuel rx < b.totRead - b.readUntil + rxFuel rx
      omega
  · rw [if_neg hlt]
    have hps : pendingSpec b rx = specRun rx := by
      have hw : window b = [] := by simp [window, show b.readUntil = b.totRead by omega]
      simp [pendingSpec, hw, decodeSeq]
    have hg := getNextRead_spec b rx rx hl rfl (Nat.le_refl _)
    rcases hgn : getNextRead b rx with ⟨o, b1, rx1⟩
    rw [hgn] at hg
    cases o with
    | none => exact ⟨_, _, _, rfl, hps.trans hg⟩
    | some r =>
      obtain ⟨g1, g2, g3, g4, g5⟩ := hg
      have hinv2 : Inv { b1 with totRead := r, readUntil := 0 } := ⟨g3, Nat.zero_le _, g2⟩
      have hp2 : specRun rx = pendingSpec { b1 with totRead := r, readUntil := 0 } rx1 := by
        have hw : window { b1 with totRead := r, readUntil := 0 } = b1.buf.take r := by
          show (b1.buf.drop 0).take (r - 0) = _
          simp
        have hwl : (b1.buf.take r).length = r := by simp; omega
        rw [g5]
        unfold pendingSpec
        rw [hw, hwl]
      simp only
      rcases parseAt_pending _ hinv2 g1 rx1 with ⟨h, hp⟩ | ⟨m, n, h1, h2, h, hp⟩
      · exact ⟨_, _, _, h, hps.trans (hp2.trans hp)⟩
      · refine ⟨_, _, _, h, ⟨g3, h2, g2⟩, hps.trans (hp2.trans hp), ?_, Or.inr (by omega)⟩
        show r - (0 + n) + rxFuel rx1 < b.totRead - b.readUntil + rxFuel rx
        omega

theorem next_spec_of_eq {b b' : Backend} (hinv : Inv b) {rx rx' : List Rx} {o : Option (Msg × Addr)}
    (h : next b rx = .ok (o, b', rx')) :
    match (generalizing := false) o with
    | none => pendingSpec b rx = []
    | some p => Inv b' ∧ pendingSpec b rx = p :: pendingSpec b' rx' ∧ measure b' rx' < measure b rx ∧
        ((rx' = rx ∧ b.readUntil < b'.readUntil ∧ b'.totRead = b.totRead) ∨ rxFuel rx' < rxFuel rx) := by
  obtain ⟨o2, b2, rx2, hn, hs⟩ := next_spec b hinv rx
  rw [h] at hn
  cases hn
  exact hs

theorem run_eq_pending (fuel : Nat) (b : Backend) (rx : List Rx) (hinv : Inv b)
    (hm : measure b rx ≤ fuel) : run fuel b rx = .ok (pendingSpec b rx) := by
  induction fuel generalizing b rx with
  | zero =>
    have := rxFuel_pos rx
    unfold measure at hm
    omega
  | succ k ih =>
    obtain ⟨o, b', rx', hn, h⟩ := next_spec b hinv rx
    rw [run, hn]
    cases o with
    | none =>
      simp only [Out.bind_ok, h]
      rfl
    | some p =>
      obtain ⟨hinv', hp, hlt, _⟩ := h
      simp only [Out.bind_ok, ih b' rx' hinv' (by omega), hp]
      rfl

theorem pendingSpec_new (buf0 : Bytes) (rx : List Rx) : pendingSpec (Backend.new buf0) rx = specRun rx := by
  simp [pendingSpec, window, Backend.new, decodeSeq]

theorem run_eq_spec (buf0 : Bytes) (h : buf0.length = 1024) (rx : List Rx) (fuel : Nat)
    (hf : rxFuel rx ≤ fuel) : run fuel (Backend.new buf0) rx = .ok (specRun rx) := by
  rw [run_eq_pending fuel (Backend.new buf0) rx (.new h) (by simp [measure, Backend.new]; exact hf), pendingSpec_new]

end Portus.Ipc
