import PortusModel.Lemmas.Parser
/-! The parser never produces `Op::Def`: `compile_expr` has an `unreachable!` for it, so C10 needs this of every
parsed program. -/
namespace Portus.Lang
open Portus

def NoDefE : Expr → Prop
  | .sexp o l r => o ≠ .def ∧ NoDefE l ∧ NoDefE r
  | _ => True

def NoDefEv (ev : Event) : Prop := NoDefE ev.flag ∧ ∀ e ∈ ev.body, NoDefE e

theorem atom_NoDef {inp r : List Char} {e : Expr} (h : atom inp = some (e, r)) : NoDefE e := by
  unfold atom at h
  -- every alternative of `atom` returns an atom
  repeat' split at h
  all_goals
    cases h
    try trivial

theorem command_NoDef {inp r : List Char} {e : Expr} (h : command inp = some (e, r)) : NoDefE e := by
  unfold command at h
  simp only [Option.bind_eq_bind, Option.bind_eq_some_iff] at h
  -- one (result, equation) pair per step of `command`; only the last is read
  obtain ⟨_, _, _, _, _, _, _, _, _, _, h⟩ := h
  cases h
  trivial

theorem comment_NoDef {inp r : List Char} {e : Expr} (h : comment inp = some (e, r)) : NoDefE e := by
  unfold comment at h
  simp only [Option.bind_eq_bind, Option.bind_eq_some_iff] at h
  obtain ⟨_, _, _, _, h⟩ := h
  cases h
  trivial

theorem checkExpr_eq {o : Op} {l r e : Expr} (h : checkExpr o l r = some e) : e = .sexp o l r := by
  unfold checkExpr at h
  -- where `checkExpr` succeeds it returns its arguments
  repeat' split at h
  all_goals
    cases h
    try rfl

/-- the operator of the s-expression alternative comes from `op`, which has no spelling for `Def`, and `checkExpr`
returns its arguments; the other alternatives return no s-expression -/
theorem expr_NoDef {fuel : Nat} {inp r : List Char} {e : Expr} (h : expr fuel inp = some (e, r)) : NoDefE e := by
  induction fuel generalizing inp e r with
  | zero => cases h
  | succ k ih =>
    unfold expr at h
    simp only at h
    split at h
    · rename_i e' r' hres
      cases h
      split at hres
      · rename_i x hc
        cases hres
        exact comment_NoDef hc
      · split at hres
        · rename_i x hs
          cases hres
          simp only [Option.bind_eq_bind, Option.bind_eq_some_iff, Option.pure_def] at hs
          -- the steps of the s-expression alternative; `op`, the two operands and `checkExpr` are read
          obtain ⟨_, _, _, _, ⟨o, _⟩, ho, _, _, ⟨l, _⟩, hl, _, _, ⟨rt, _⟩, hrt, e2, hce, _, _, _, _, hfin⟩ := hs
          cases hfin
          rw [checkExpr_eq hce]
          exact ⟨op_ne_def _ _ _ ho, ih hl, ih hrt⟩
        · split at hres
          · rename_i x hc
            cases hres
            exact command_NoDef hc
          · exact atom_NoDef hres
    · cases h

theorem event_NoDef {fuel : Nat} {inp r : List Char} {ev : Event} (h : event fuel inp = some (ev, r)) :
    NoDefEv ev := by
  unfold event at h
  simp only [Option.bind_eq_bind, Option.bind_eq_some_iff, Option.pure_def] at h
  -- the steps of `event`; the condition and the body are read
  obtain ⟨_, _, _, _, _, _, _, _, ⟨c, _⟩, hc, ⟨b, _⟩, hb, _, _, _, _, _, _, hfin⟩ := h
  cases hfin
  exact ⟨expr_NoDef hc, many1_all (P := NoDefE) (fun _ _ _ h => expr_NoDef h) hb⟩

theorem events_NoDef {fuel : Nat} {inp r : List Char} {evs : List Event} (h : events fuel inp = some (evs, r)) :
    ∀ ev ∈ evs, NoDefEv ev := by
  unfold events at h
  refine many1_all (P := NoDefEv) (fun i a r' hp => ?_) h
  simp only [Option.bind_eq_bind, Option.bind_eq_some_iff, Option.pure_def] at hp
  obtain ⟨_, _, ⟨e, _⟩, he, _, _, hfin⟩ := hp
  cases hfin
  exact event_NoDef he

theorem desugar_NoDef {e : Expr} (h : NoDefE e) : NoDefE (desugar e) := by
  induction e with
  | atom p => exact h
  | none => exact h
  | cmd c => cases c <;> exact ⟨nofun, trivial, trivial⟩
  | sexp o l r ihl ihr => exact ⟨h.1, ihl h.2.1, ihr h.2.2⟩

theorem parseSource_NoDef (src : List Char) (ds : List Decl) (evs : List Event)
    (h : parseSource src = some (ds, evs)) : ∀ ev ∈ evs, NoDefEv ev := by
  obtain ⟨_, evs', _, -, hev, rfl⟩ := parseSource_inv h
  exact List.forall_mem_map.mpr fun ev0 hm => ⟨(events_NoDef hev ev0 hm).1,
    List.forall_mem_map.mpr fun e0 hm0 => desugar_NoDef ((events_NoDef hev ev0 hm).2 e0 hm0)⟩

end Portus.Lang
