import PortusModel.Lemmas.TextEval
import PortusModel.Lemmas.CompileLower
/-!
# The final scope as the register assignment of the C01 proof (`RhoOk`, `DefsFor`)
-/
namespace Portus.Lang.Frag
open Portus Portus.Lang Portus.Vm

theorem lastVal_eq (n : Name) (upd : List (Name × Nat)) : Frag.lastVal n upd = Lang.lastVal n upd := by
  induction upd with
  | nil => rfl
  | cons p rest ih =>
    obtain ⟨m, v⟩ := p
    simp only [Frag.lastVal, Lang.lastVal, ih]
    cases Lang.lastVal n rest <;> rfl

/-- the literal a recorded type carries, a boolean as 0 or 1 -/
def litOf : Ty → Option Nat
  | .num (some n) => some n
  | .bool (some b) => some (if b then 1 else 0)
  | _ => none

/-- the literal initial value of a declared variable after the overrides -/
def initNat (upd : List (Name × Nat)) (d : Decl) : Option Nat := litOf (C13.overrideTy upd d.var d.init)

/-- the declaration `varDecls` makes of one variable, when its initial value is a literal -/
def oneD (upd : List (Name × Nat)) (d : Decl) : Sem.VarDecl :=
  { name := d.var, isReport := "Report.".toList.isPrefixOf d.var, vol := d.vol,
    init := Sem.immVal ((initNat upd d).getD 0) }

theorem mem_split_decls {ds : List Decl} {d : Decl} : d ∈ ds ↔ d ∈ reportsOf ds ++ controlsOf ds :=
  (List.filter_append_perm _ ds).mem_iff.symm

/-- a `mapM` in `Option` that succeeds, read through what each call says when it succeeds -/
theorem mapM_inv {α β : Type} {f : α → Option β} {g : α → β} {P : α → Prop}
    (hf : ∀ a b, f a = some b → b = g a ∧ P a) {l : List α} {l' : List β} (h : l.mapM f = some l') :
    l' = l.map g ∧ ∀ a ∈ l, P a := by
  induction l generalizing l' with
  | nil =>
    cases h
    exact ⟨rfl, nofun⟩
  | cons a rest ih =>
    rw [List.mapM_cons] at h
    obtain ⟨b, hb, h⟩ := Option.bind_eq_some_iff.mp h
    obtain ⟨bs, hbs, h⟩ := Option.bind_eq_some_iff.mp h
    cases h
    obtain ⟨rfl, pa⟩ := hf a b hb
    obtain ⟨rfl, ps⟩ := ih hbs
    exact ⟨rfl, List.forall_mem_cons.mpr ⟨pa, ps⟩⟩

theorem varDecls_inv {ds : List Decl} {upd : List (Name × Nat)} {decls : List Sem.VarDecl}
    (h : varDecls ds upd = some decls) :
    decls = (reportsOf ds ++ controlsOf ds).map (oneD upd) ∧
    ∀ d ∈ ds, ∃ n, initNat upd d = some n ∧ n ≠ 0x3fffffff := by
  unfold varDecls at h
  extract_lets one at h
  have hone : ∀ d v, one d = some v → v = oneD upd d ∧ ∃ n, initNat upd d = some n ∧ n ≠ 0x3fffffff := by
    intro d v hv
    simp only [one, lastVal_eq] at hv
    split at hv
    · rename_i n hn
      have hn' : initNat upd d = some n := by
        unfold initNat C13.overrideTy litOf
        cases hl : Lang.lastVal d.var upd <;> simp only [hl] at hn ⊢ <;> exact hn
      split at hv
      · cases hv
      · rename_i hne
        cases hv
        exact ⟨by simp only [oneD, hn', Option.getD_some], n, hn', hne⟩
    · cases hv
  simp only [Option.bind_eq_bind, Option.bind_eq_some_iff, Option.pure_def, Option.some.injEq] at h
  obtain ⟨rs, hrs, cs, hcs, rfl⟩ := h
  obtain ⟨rfl, r2⟩ := mapM_inv hone hrs
  obtain ⟨rfl, c2⟩ := mapM_inv hone hcs
  exact ⟨List.map_append.symm, fun d hd => forall_append r2 c2 d (mem_split_decls.mp hd)⟩

section Start
variable {uid : Nat} {ds : List Decl} {sc0 : Scope}

theorem decl_reg (hnd : (ds.map (·.var)).Nodup) (hfresh : ∀ d ∈ ds, (Scope.new uid).get d.var = none)
    (h0 : declareAll (Scope.new uid) ds = .ok sc0) (upd : List (Name × Nat)) :
    ∀ d ∈ ds, ∃ reg, (applyUpdates sc0 upd).get d.var = some reg ∧ isRC reg = true ∧
      reg.getType = C13.overrideTy upd d.var d.init := by
  obtain ⟨ha, hb, -, -, -⟩ := C13.report_slots uid ds sc0 hnd hfresh h0
  intro d hd
  rcases mem_reportsOf_or_controlsOf hd with ⟨k, hk, rfl⟩ | ⟨k, hk, rfl⟩
  · exact ⟨_, by rw [applyUpdates_get, ha k hk, C13.overrideSpec_report], rfl, rfl⟩
  · exact ⟨_, by rw [applyUpdates_get, hb k hk, C13.overrideSpec_control], rfl, rfl⟩

theorem named_perm (hnd : (ds.map (·.var)).Nodup) (hfresh : ∀ d ∈ ds, (Scope.new uid).get d.var = none)
    (h0 : declareAll (Scope.new uid) ds = .ok sc0) (upd : List (Name × Nat)) :
    (applyUpdates sc0 upd).named.Perm
      (builtinNamed ++ (reportsOf ds ++ controlsOf ds).map
        (fun d => (d.var, ((applyUpdates sc0 upd).get d.var).getD .none))) := by
  have hnn : NamesNodup (applyUpdates sc0 upd) :=
    (applyUpdates_reach sc0 upd).namesNodup (declareAll_namesNodup hnd hfresh h0)
  have ofNames : ∀ l : List (Name × Reg), (regNames l).Nodup → l.Nodup := fun l hl =>
    List.Pairwise.of_map (fun p => p.1) (fun a b hab e => hab (by rw [e])) hl
  obtain ⟨-, -, -, hd, he⟩ := C13.report_slots uid ds sc0 hnd hfresh h0
  refine (List.perm_ext_iff_of_nodup (ofNames _ hnn) (ofNames _ ?_)).mpr ?_
  · unfold regNames
    rw [List.map_append, List.map_map]
    refine List.nodup_append.mpr
      ⟨builtinNamed_nodup, ((List.filter_append_perm _ ds).map (·.var)).nodup_iff.mpr hnd, ?_⟩
    intro a ha b hb e
    subst e
    obtain ⟨d, hd', rfl⟩ := List.mem_map.mp hb
    have hf := hfresh d (mem_split_decls.mpr hd')
    rw [Scope.new_get] at hf
    exact regGet_eq_none_iff.mp hf ha
  · rintro ⟨n, r⟩
    constructor
    · intro hm
      have hg : (applyUpdates sc0 upd).get n = some r := hnn.get_of_mem hm
      rw [List.mem_append]
      have hg' := hg
      rw [applyUpdates_get] at hg'
      cases h1 : sc0.get n with
      | none =>
        rw [(C13.overrides_cases sc0 upd n).2.1 h1] at hg
        cases hg
      | some r0 =>
        rcases he n r0 h1 with hbi | ⟨d, hd', rfl⟩
        · left
          have hbr := Scope.new_get_builtin hbi
          rw [h1, C13.overrideSpec_builtin upd n hbr] at hg'
          cases hg'
          rw [Scope.new_get] at hbi
          exact regGet_some_mem hbi
        · right
          exact List.mem_map.mpr ⟨d, mem_split_decls.mp hd', by rw [hg]; rfl⟩
    · intro hm
      rcases List.mem_append.mp hm with hm | hm
      · have h1 : (Scope.new uid).get n = some r := by
          rw [Scope.new_get]; exact regGet_of_mem_nodup builtinNamed_nodup hm
        have hbr := Scope.new_get_builtin h1
        have : (applyUpdates sc0 upd).get n = some r := by
          rw [applyUpdates_get, hd n r h1, C13.overrideSpec_builtin upd n hbr]
        exact regGet_some_mem this
      · obtain ⟨d, hd', e⟩ := List.mem_map.mp hm
        obtain ⟨reg, hreg, -, -⟩ := decl_reg hnd hfresh h0 upd d (mem_split_decls.mpr hd')
        rw [hreg] at e
        cases e
        exact regGet_some_mem hreg

end Start

theorem serR_immNum_cases {n : Nat} (h : SerR (.immNum n)) : n = 2^64 - 1 ∨ n < 2^31 :=
  let ⟨_, _, h⟩ := h; (Wire.classIdx_immNum.mp h).1

theorem immVal_toNat {n : Nat} (h : n = 2^64 - 1 ∨ n < 2^31) : (Sem.immVal n).toNat = n % 2^32 := by
  rcases h with rfl | h
  · decide
  · unfold Sem.immVal
    rw [if_neg (by omega), UInt64.toNat_ofNat', Nat.mod_eq_of_lt (by omega), Nat.mod_eq_of_lt (by omega)]

theorem toVReg_immNum_immVal {n : Nat} (h : SerR (.immNum n)) :
    toVReg (.immNum n) = ⟨1, (Sem.immVal n).toNat⟩ := by
  rw [toVReg_immNum h, immVal_toNat (serR_immNum_cases h)]; rfl

theorem toVReg_immBool_immVal (b : Bool) :
    toVReg (.immBool b) = ⟨1, (Sem.immVal (if b then 1 else 0)).toNat⟩ := by
  cases b <;> decide

theorem mem_compile_instrs {evs : List Event} {sc scF : Scope} {bin : Bin}
    (h : compileProg evs sc = .ok (bin, scF)) : ∀ i ∈ defInstrs sc.named, i ∈ bin.instrs := by
  obtain ⟨cp, -, rfl, -⟩ := compileProg_ok h
  exact fun i hi => List.mem_append_left _ hi

/-- what is known of a declared variable `d`: its register after the overrides, its literal initial
value `n`, and its DEF instruction, which the encoder accepted -/
structure DeclFacts (sc1 : Scope) (upd : List (Name × Nat)) (d : Decl) (reg : Reg) (n : Nat) : Prop where
  get : sc1.get d.var = some reg
  ser : SerR reg
  init : initNat upd d = some n
  notInf : n ≠ 0x3fffffff
  fits : n = 2^64 - 1 ∨ n < 2^31
  defI : (defOf (d.var, reg)).map toVInstr =
    some { op := 2, ret := toVReg reg, left := toVReg reg, right := ⟨1, (Sem.immVal n).toNat⟩ }

theorem decl_facts {uid : Nat} {ds : List Decl} {sc0 : Scope} {upd : List (Name × Nat)}
    {decls : List Sem.VarDecl}
    (hnd : (ds.map (·.var)).Nodup) (hfresh : ∀ d ∈ ds, (Scope.new uid).get d.var = none)
    (h0 : declareAll (Scope.new uid) ds = .ok sc0) (hv : varDecls ds upd = some decls)
    (hdefs : ∀ i ∈ defInstrs (applyUpdates sc0 upd).named, SerI i) :
    ∀ d ∈ ds, ∃ reg n, DeclFacts (applyUpdates sc0 upd) upd d reg n := by
  intro d hd
  obtain ⟨reg, hg, hrc, hty⟩ := decl_reg hnd hfresh h0 upd d hd
  obtain ⟨n, hn, hne⟩ := (varDecls_inv hv).2 d hd
  have hin : ∀ i, defOf (d.var, reg) = some i → SerI i := by
    intro i hi
    refine hdefs i ?_
    rw [defInstrs_eq_filterMap]
    exact List.mem_filterMap.mpr ⟨_, regGet_some_mem hg, hi⟩
  have hlit : litOf reg.getType = some n := by rw [hty]; exact hn
  unfold litOf at hlit
  split at hlit
  · rename_i m hm
    cases hlit
    have hdo := defOf_num (x := d.var) hrc hm
    have hs := hin _ hdo
    refine ⟨reg, n, hg, hs.1, hn, hne, serR_immNum_cases hs.2.2, ?_⟩
    rw [hdo]
    simp only [Option.map_some, toVInstr, defNum, toVReg_immNum_immVal hs.2.2]
    rfl
  · rename_i b hb
    cases hlit
    have hdo := defOf_bool (x := d.var) hrc hb
    have hs := hin _ hdo
    refine ⟨reg, _, hg, hs.1, hn, hne, ?_, ?_⟩
    · cases b <;> simp
    · rw [hdo]
      simp only [Option.map_some, toVInstr, defBool, toVReg_immBool_immVal]
      rfl
  · cases hlit

/-- an accepted compilation taken apart: the scope after the declarations, from which the events were compiled;
bindings never move on the way to the final scope; every declared variable with its register and its DEF -/
theorem compiled_decls {uid : Nat} {src : List Char} {upd : List (Name × Nat)} {ds : List Decl} {evs : List Event}
    {bin : Bin} {scF : Scope} {img : Bytes} {decls : List Sem.VarDecl}
    (hp : parseSource src = some (ds, evs)) (hnd : (ds.map (·.var)).Nodup)
    (hfresh : ∀ d ∈ ds, (Scope.new uid).get d.var = none) (hc : compile uid src upd = .ok (bin, scF))
    (hser : bin.serialize = .ok img) (hv : varDecls ds upd = some decls) :
    ∃ sc0, declareAll (Scope.new uid) ds = .ok sc0 ∧ compileProg evs (applyUpdates sc0 upd) = .ok (bin, scF) ∧
      Reach False (applyUpdates sc0 upd) scF ∧ ∀ d ∈ ds, ∃ reg n, DeclFacts (applyUpdates sc0 upd) upd d reg n := by
  obtain ⟨ds', evs', sc0, hp', h0, hcp⟩ := Lang.compile_ok hc
  cases hp.symm.trans hp'
  exact ⟨sc0, h0, hcp, Reach.of_compileProg hcp,
    decl_facts hnd hfresh h0 hv fun i hi => serI_of_serialize hser i (mem_compile_instrs hcp i hi)⟩

theorem filterMap_map_eq {α β γ : Type} {f : α → Option β} {g : β → γ} {h : α → γ} {l : List α}
    (hh : ∀ a ∈ l, (f a).map g = some (h a)) : (l.filterMap f).map g = l.map h := by
  rw [List.map_filterMap]
  induction l with
  | nil => rfl
  | cons a rest ih =>
    rw [List.filterMap_cons, hh a List.mem_cons_self, ih fun b hb => hh b (List.mem_cons_of_mem _ hb)]
    rfl

/-- **T-C.** The DEF preamble is one DEF per declared variable (in register-file order). -/
theorem defsFor_of_compile (uid : Nat) (src : List Char) (upd : List (Name × Nat)) (ds : List Decl)
    (evs : List Event) (sc0 : Scope) (bin : Bin) (scF : Scope) (img : Bytes) (decls : List Sem.VarDecl)
    (hp : parseSource src = some (ds, evs))
    (hnd : (ds.map (·.var)).Nodup)
    (hfresh : ∀ d ∈ ds, (Scope.new uid).get d.var = none)
    (h0 : declareAll (Scope.new uid) ds = .ok sc0)
    (hc : compile uid src upd = .ok (bin, scF))
    (hser : bin.serialize = .ok img)
    (hv : varDecls ds upd = some decls) :
    DefsFor (fun n => (scF.get n).map toVReg) decls
      ((defInstrs (applyUpdates sc0 upd).named).map toVInstr) := by
  obtain ⟨sc0', h0', -, hreach, facts⟩ := compiled_decls hp hnd hfresh hc hser hv
  cases h0.symm.trans h0'
  unfold DefsFor
  rw [defInstrs_eq_filterMap, (varDecls_inv hv).1]
  refine ((named_perm hnd hfresh h0 upd).filterMap defOf).map toVInstr |>.trans ?_
  rw [List.filterMap_append, ← defInstrs_eq_filterMap builtinNamed, defInstrs_builtin, List.nil_append,
    List.filterMap_map, List.map_map]
  refine List.Perm.of_eq (filterMap_map_eq ?_)
  intro d hd
  obtain ⟨reg, n, f⟩ := facts d (mem_split_decls.mpr hd)
  have hρ : (scF.get d.var).map toVReg = some (toVReg reg) := rhoOf_of_reach hreach f.get
  simp only [Function.comp_apply, f.get, Option.getD_some, f.defI, mkDef, oneD, f.init, hρ]

/-- **the table**: seen through `toVReg`, the ABI table is `primNames` at class 4 and `implNames` at class 2, each
name at its position -/
theorem abi_cells :
    C13.abiTable.map (fun p => (p.1, toVReg p.2)) =
      primNames.zipIdx.map (fun p => (p.1, (⟨4, p.2⟩ : VReg))) ++ implNames.zipIdx.map (fun p => (p.1, ⟨2, p.2⟩)) := by
  decide +kernel

theorem abi_names : C13.abiTable.map (·.1) = primNames ++ implNames := by decide +kernel

theorem abi_kind {p : String × Reg} (hp : p ∈ C13.abiTable) :
    (∃ i, ∃ h : i < 15, p.1 = primNames[i] ∧ toVReg p.2 = ⟨4, i⟩) ∨
    (∃ i, ∃ h : i < 6, p.1 = implNames[i] ∧ toVReg p.2 = ⟨2, i⟩) := by
  have hm : (p.1, toVReg p.2) ∈ C13.abiTable.map (fun p => (p.1, toVReg p.2)) := List.mem_map_of_mem hp
  rw [abi_cells, List.mem_append, List.mem_map, List.mem_map] at hm
  rcases hm with ⟨⟨s, i⟩, hq, e⟩ | ⟨⟨s, i⟩, hq, e⟩ <;>
    obtain ⟨hi, hs⟩ := List.getElem?_eq_some_iff.mp (List.mem_zipIdx_iff_getElem?.mp hq) <;>
    simp only [Prod.mk.injEq] at e
  · exact .inl ⟨i, hi, e.1.symm.trans hs.symm, e.2.symm⟩
  · exact .inr ⟨i, hi, e.1.symm.trans hs.symm, e.2.symm⟩

theorem abi_mem {s : String} {v : VReg}
    (h : (s, v) ∈ primNames.zipIdx.map (fun p => (p.1, (⟨4, p.2⟩ : VReg))) ++
      implNames.zipIdx.map (fun p => (p.1, ⟨2, p.2⟩))) :
    ∃ p ∈ C13.abiTable, p.1 = s ∧ toVReg p.2 = v := by
  rw [← abi_cells] at h
  obtain ⟨p, hp, e⟩ := List.mem_map.mp h
  cases e
  exact ⟨p, hp, rfl, rfl⟩

theorem abi_prims (i : Nat) (h : i < 15) : ∃ p ∈ C13.abiTable, p.1 = primNames[i] ∧ toVReg p.2 = ⟨4, i⟩ :=
  abi_mem (List.mem_append_left _ (List.mem_map.mpr
    ⟨(primNames[i], i), List.mem_zipIdx_iff_getElem?.mpr (List.getElem?_eq_getElem h), rfl⟩))

theorem abi_impls (i : Nat) (h : i < 6) : ∃ p ∈ C13.abiTable, p.1 = implNames[i] ∧ toVReg p.2 = ⟨2, i⟩ :=
  abi_mem (List.mem_append_right _ (List.mem_map.mpr
    ⟨(implNames[i], i), List.mem_zipIdx_iff_getElem?.mpr (List.getElem?_eq_getElem h), rfl⟩))

theorem isBuiltinName_abi {x : Name} (h : isBuiltinName x = true) : ∃ p ∈ C13.abiTable, p.1.toList = x := by
  obtain ⟨s, hs, e⟩ := isBuiltinName_iff.mp h
  rw [← abi_names] at hs
  obtain ⟨p, hp, rfl⟩ := List.mem_map.mp hs
  exact ⟨p, hp, e⟩

theorem toVReg_report {k : Nat} (t : Ty) (v : Bool) (h : k ≤ 15) :
    toVReg (.report k t v) = ⟨if v then 5 else 6, k⟩ :=
  toVReg_of_classIdx (Wire.classIdx_report.mpr ⟨h, rfl, rfl⟩)

theorem toVReg_control {k : Nat} (t : Ty) (v : Bool) (h : k ≤ 15) :
    toVReg (.control k t v) = ⟨if v then 8 else 0, k⟩ :=
  toVReg_of_classIdx (Wire.classIdx_control.mpr ⟨h, rfl, rfl⟩)

theorem toVReg_local {i : Nat} (t : Ty) (h : i ≤ 5) : toVReg (.local i t) = ⟨3, i⟩ :=
  toVReg_of_classIdx (Wire.classIdx_local.mpr ⟨h, rfl, rfl⟩)

theorem SerR_report {k : Nat} {t : Ty} {v : Bool} (h : SerR (.report k t v)) : k ≤ 15 :=
  let ⟨_, _, h⟩ := h; (Wire.classIdx_report.mp h).1

theorem SerR_control {k : Nat} {t : Ty} {v : Bool} (h : SerR (.control k t v)) : k ≤ 15 :=
  let ⟨_, _, h⟩ := h; (Wire.classIdx_control.mp h).1

theorem SerR_of_slot {r r' : Reg} (h : r'.slot = r.slot) (hs : SerR r) : SerR r' := by
  obtain ⟨c, x, hc⟩ := hs
  exact ⟨c, x, by rw [← classIdx_slot, h, classIdx_slot, hc]⟩

/-- the five kinds of binding a final scope holds; `BKind.file`: the register file (`fileOf` of the class) each lives in -/
inductive BKind | prim | impl | report | control | loc

def BKind.file : BKind → Nat
  | .prim => 4 | .impl => 2 | .report => 5 | .control => 0 | .loc => 3

theorem BKind.file_inj {a b : BKind} (h : a.file = b.file) : a = b := by
  cases a <;> cases b <;> first | rfl | cases h

/-- the bindings `x ↦ r` in the final scope, by kind, with the machine cell `v = toVReg r` of each. The last field
`hb` is what `RhoOk` needs besides: `isBuiltinName x` for the two built-in kinds, the encoder's index bound for the
other three -/
inductive Kind (ds : List Decl) (scF : Scope) (x : Name) (v : VReg) : BKind → Prop
  | prim (i : Nat) (hi : i < 15) (hx : x = primNames[i].toList) (hv : v = ⟨4, i⟩) (hb : isBuiltinName x = true) :
      Kind ds scF x v .prim
  | impl (i : Nat) (hi : i < 6) (hx : x = implNames[i].toList) (hv : v = ⟨2, i⟩) (hb : isBuiltinName x = true) :
      Kind ds scF x v .impl
  | report (k : Nat) (hk : k < (reportsOf ds).length) (hx : x = (reportsOf ds)[k].var)
      (hv : v = ⟨if (reportsOf ds)[k].vol then 5 else 6, k⟩) (hb : k ≤ 15) : Kind ds scF x v .report
  | control (k : Nat) (hk : k < (controlsOf ds).length) (hx : x = (controlsOf ds)[k].var)
      (hv : v = ⟨if (controlsOf ds)[k].vol then 8 else 0, k⟩) (hb : k ≤ 15) : Kind ds scF x v .control
  | loc (i : Nat) (t : Ty) (hr : scF.get x = some (.local i t)) (hv : v = ⟨3, i⟩) (hb : i ≤ 5) : Kind ds scF x v .loc

theorem Kind.file_eq {ds : List Decl} {scF : Scope} {x : Name} {v : VReg} {k : BKind}
    (h : Kind ds scF x v k) : fileOf v.cls = k.file := by
  cases h with
  | prim i hi hx hv hb => rw [hv]; rfl
  | impl i hi hx hv hb => rw [hv]; rfl
  | report k hk hx hv hb => rw [hv]; cases (reportsOf ds)[k].vol <;> rfl
  | control k hk hx hv hb => rw [hv]; cases (controlsOf ds)[k].vol <;> rfl
  | loc i t hr hv hb => rw [hv]; rfl

/-- refutes a hypothesis that equates the register files of two different classes -/
macro "file_contra" h:ident : tactic =>
  `(tactic| (revert $h:ident; dsimp only; (repeat' split) <;> decide))

theorem filter_map_split {α β : Type} (p : α → Bool) (q : β → Bool) (f : α → β) (hq : ∀ a, q (f a) = p a)
    (l : List α) :
    ((l.filter p ++ l.filter (fun a => !p a)).map f).filter q = (l.filter p).map f ∧
    ((l.filter p ++ l.filter (fun a => !p a)).map f).filter (fun b => !q b) = (l.filter (fun a => !p a)).map f := by
  simp only [List.filter_map, List.filter_append, List.filter_filter, Function.comp_def, hq]
  constructor <;> simp

theorem immVal_inits {n : Nat} (hf : n = 2^64 - 1 ∨ n < 2^31) (hne : n ≠ 0x3fffffff) :
    ((Sem.immVal n).toNat < 2^31 ∨ Sem.immVal n = U32MAX) ∧ (Sem.immVal n).toNat ≠ 0x3fffffff := by
  rcases hf with rfl | hlt
  · exact ⟨Or.inr (by decide), by decide⟩
  · have := immVal_toNat (.inr hlt)
    rw [Nat.mod_eq_of_lt (by omega)] at this
    rw [this]
    exact ⟨Or.inl hlt, hne⟩

/-- **T-B.** The final scope of an accepted program with literal initial values is a register
assignment as the simulation proof needs it.

`hloc` (at most 6 local variables) is an added hypothesis: the encoder checks only registers that
occur in instructions, and a local with index 6 or 7 — `RhoOk.vars` would allow `idx < 8` — is not
encodable (`Reg.classIdx` refuses local indices above 5), so `toVReg` maps it outside class 3. The
index bounds of report and control variables are derived: every declared variable has a DEF
instruction (`varDecls = some _`: all initial values are literals), which the encoder accepted. -/
theorem rhoOk_of_compile (uid : Nat) (src : List Char) (upd : List (Name × Nat)) (ds : List Decl)
    (evs : List Event) (bin : Bin) (scF : Scope) (img : Bytes) (decls : List Sem.VarDecl)
    (hp : parseSource src = some (ds, evs))
    (hnd : (ds.map (·.var)).Nodup)
    (hfresh : ∀ d ∈ ds, (Scope.new uid).get d.var = none)
    (hc : compile uid src upd = .ok (bin, scF))
    (hser : bin.serialize = .ok img)
    (hv : varDecls ds upd = some decls)
    (hloc : scF.numLocal ≤ 6) :
    RhoOk (fun n => (scF.get n).map toVReg) decls := by
  obtain ⟨sc0, -, -, hreach, facts⟩ := compiled_decls hp hnd hfresh hc hser hv
  obtain ⟨s1, s2, -, s4, ⟨s5b, s5i, -⟩, s6⟩ :=
    C13.compile_scope_slots uid src upd ds evs bin scF hp hnd hfresh hc
  obtain ⟨hdecls, -⟩ := varDecls_inv hv
  have serF : ∀ d ∈ ds, ∀ r, scF.get d.var = some r → SerR r := by
    intro d hd r hr
    obtain ⟨reg, n, f⟩ := facts d hd
    obtain ⟨r', h1, h2⟩ := hreach.fwd f.get
    rw [hr] at h1; cases h1
    exact SerR_of_slot h2 f.ser
  have repB : ∀ k (hk : k < (reportsOf ds).length), k ≤ 15 := fun k hk =>
    SerR_report (serF _ (List.mem_filter.mp (List.getElem_mem hk)).1 _ (s1 k hk))
  have ctlB : ∀ k (hk : k < (controlsOf ds).length), k ≤ 15 := fun k hk =>
    SerR_control (serF _ (List.mem_filter.mp (List.getElem_mem hk)).1 _ (s2 k hk))
  have classify : ∀ x r, (scF.get x).map toVReg = some r → ∃ k, Kind ds scF x r k := by
    intro x r hx
    obtain ⟨reg, hg, rfl⟩ := Option.map_eq_some_iff.mp hx
    rcases s6 x reg hg with ⟨p, hp1, hp2, rfl⟩ | ⟨k, hk, rfl, rfl⟩ | ⟨k, hk, rfl, rfl⟩ | ⟨i, t, rfl, -, -⟩
    · have hb : isBuiltinName x = true :=
        isBuiltinName_iff.mpr ⟨p.1, by rw [← abi_names]; exact List.mem_map_of_mem hp1, hp2⟩
      rcases abi_kind hp1 with ⟨i, hi, e1, e2⟩ | ⟨i, hi, e1, e2⟩
      · exact ⟨_, .prim i hi (by rw [← hp2, e1]) e2 hb⟩
      · exact ⟨_, .impl i hi (by rw [← hp2, e1]) e2 hb⟩
    · exact ⟨_, .report k hk rfl (toVReg_report _ _ (repB k hk)) (repB k hk)⟩
    · exact ⟨_, .control k hk rfl (toVReg_control _ _ (ctlB k hk)) (ctlB k hk)⟩
    · have hi : i ≤ 5 := by have := s5b x i t hg; omega
      exact ⟨_, .loc i t hg (toVReg_local _ hi) hi⟩
  have notBuiltin : ∀ d ∈ ds, isBuiltinName d.var = false := by
    intro d hd
    refine Bool.eq_false_iff.mpr fun hb => ?_
    obtain ⟨p, hp1, hp2⟩ := isBuiltinName_abi hb
    have := (C13.builtin_abi uid).1 p hp1
    rw [hp2, hfresh d hd] at this
    cases this
  have declOf : ∀ d ∈ decls, ∃ d0 ∈ ds, d = oneD upd d0 := fun d hd =>
    (List.mem_map.mp (hdecls ▸ hd)).imp fun _ h => ⟨mem_split_decls.mpr h.1, h.2.symm⟩
  refine ⟨?prims, ?impls, ?vars, ?inj, ?reports, ?controls, ?declNames, ?declNodup, ?inits, ?locals⟩
  case prims =>
    intro i h
    obtain ⟨p, hp1, hp2, hp3⟩ := abi_prims i h
    rw [← hp2, s4 p hp1, Option.map_some, hp3]
  case impls =>
    intro i h
    obtain ⟨p, hp1, hp2, hp3⟩ := abi_impls i h
    rw [← hp2, s4 p hp1, Option.map_some, hp3]
  case vars =>
    intro x r hx hnb
    obtain ⟨k, kx⟩ := classify x r hx
    cases kx with
    | report k hk hx' hv hb =>
      subst hv; right; right
      exact ⟨by split <;> simp, by show k < 110; omega⟩
    | control k hk hx' hv hb =>
      subst hv; right; left
      exact ⟨by split <;> simp, by show k < 110; omega⟩
    | loc i t hr hv hb => subst hv; left; exact ⟨rfl, by show i < 8; omega⟩
    | _ i hi hx' hv hb => rw [hb] at hnb; cases hnb
  case inj =>
    -- cells in the same file are bindings of the same kind
    intro x y rx ry hx hy hs
    obtain ⟨k1, kx⟩ := classify x rx hx
    obtain ⟨k2, ky⟩ := classify y ry hy
    have hk : k1 = k2 := BKind.file_inj (kx.file_eq.symm.trans (hs.1.trans ky.file_eq))
    subst hk
    have hidx : rx.idx = ry.idx := hs.2
    cases kx with
    | loc i t hr hv hb =>
      cases ky with
      | loc i' t' hr' hw hb' => subst hv hw; cases hidx; exact s5i x y i t t' hr hr'
    | _ i hi hx' hv _ =>
      -- the four kinds with a table: the name is the entry at the index
      cases ky with
      | _ j hj hy' hw _ => subst hv hw; cases hidx; rw [hx', hy']
  case reports =>
    have e : ((reportsOf ds ++ controlsOf ds).map (oneD upd)).filter (·.isReport) = (reportsOf ds).map (oneD upd) :=
      (filter_map_split _ (·.isReport) (oneD upd) (fun _ => rfl) ds).1
    intro k h
    simp only [hdecls, e, List.getElem_map, List.length_map] at h ⊢
    exact (congrArg _ (s1 k h)).trans (congrArg some (toVReg_report _ _ (repB k h)))
  case controls =>
    have e : ((reportsOf ds ++ controlsOf ds).map (oneD upd)).filter (!·.isReport) = (controlsOf ds).map (oneD upd) :=
      (filter_map_split _ (·.isReport) (oneD upd) (fun _ => rfl) ds).2
    intro k h
    simp only [hdecls, e, List.getElem_map, List.length_map] at h ⊢
    exact (congrArg _ (s2 k h)).trans (congrArg some (toVReg_control _ _ (ctlB k h)))
  case declNames =>
    intro d hd
    obtain ⟨d0, h0', rfl⟩ := declOf d hd
    exact notBuiltin d0 h0'
  case declNodup =>
    rw [hdecls, List.map_map]
    exact ((List.filter_append_perm _ ds).map (·.var)).nodup_iff.mpr hnd
  case inits =>
    intro d hd
    obtain ⟨d0, h0', rfl⟩ := declOf d hd
    obtain ⟨reg, n, f⟩ := facts d0 h0'
    simp only [oneD, f.init, Option.getD_some]
    exact immVal_inits f.fits f.notInf
  case locals =>
    intro x r hx hnb hnd'
    obtain ⟨k, kx⟩ := classify x r hx
    cases kx with
    | loc i t hr hv hb => subst hv; rfl
    | prim _ _ _ _ hb | impl _ _ _ _ hb => rw [hb] at hnb; cases hnb
    | _ k hk hx' hv hb =>
      -- a report or control variable is declared
      exfalso
      refine hnd' (oneD upd _) ?_ hx'.symm
      rw [hdecls]
      exact List.mem_map.mpr ⟨_, mem_split_decls.mp (List.mem_filter.mp (List.getElem_mem hk)).1, rfl⟩

/-- the conclusion of T-A as a check of one compilation (hypotheses `InOracle` and serializability
included; `true` when a hypothesis fails). With `withDbu` the hypothesis `DefBeforeUse` is added to them: without the
repair F11 only `refinesOn true` holds of every input (`cexSrc` below); `refinesOn_true` proves both. -/
def refinesOn (withDbu : Bool) (uid : Nat) (src : List Char) (upd : List (Name × Nat)) : Bool :=
  match parseSource src with
  | none => true
  | some (ds, evs) =>
    match declareAll (Scope.new uid) ds with
    | .ok sc0 =>
      match compileProg evs (applyUpdates sc0 upd) with
      | .ok (bin, scF) =>
        if !InOracle evs then true
        else if withDbu && !DefBeforeUse ds evs then true
        else match bin.serialize with
          | .ok _ =>
            decide (lowerProg (fun n => (scF.get n).map toVReg)
                ((defInstrs (applyUpdates sc0 upd).named).map toVInstr) evs =
              some ⟨bin.events.map evToExpr, bin.instrs.map toVInstr⟩)
          | _ => true
      | _ => true
    | _ => true

theorem refinesOn_true (withDbu : Bool) (uid : Nat) (src : List Char) (upd : List (Name × Nat)) :
    refinesOn withDbu uid src upd = true := by
  unfold refinesOn
  split
  · rfl
  · rename_i ds evs hp
    split
    · rename_i sc0 h0
      split
      · rename_i bin scF hc
        split
        · rfl
        · rename_i hst
          split
          · rfl
          · split
            · rename_i img hser
              simp only [Bool.not_eq_true', Bool.not_eq_false] at hst
              exact decide_eq_true
                (compile_refines_lower uid src upd ds evs sc0 bin scF img hp h0 hc hst hser)
            · rfl
      · rfl
    · rfl

/-- a program that uses `y` before any definition: accepted, stratified, encodable. Without the repair F11
(`fix: bind must not copy an untyped right-hand side's Type::Name onto its target`) T-A fails on it: `(:= x 3)`
compiles to `bind y y 3` (the register of `y`, whose name had become the recorded type of `x`); see the header of
`CompileLower.lean` -/
def cexSrc : List Char := "(def (Report (acked 0)) (c 0)) (when true (:= x y) (:= x 3))".toList

#guard refinesOn false 1 cexSrc [] = true

example : refinesOn false 1 cexSrc [] = true := refinesOn_true false 1 cexSrc []

/-- `cexSrc` continued so that the value of the re-typed `x` is observable: the never-assigned `y` is read,
`x` stays untyped after `(:= x y)`, is re-typed by `(:= x 3)`, then reported -/
def cexSrc2 : List Char :=
  "(def (Report (acked 0)) (c 0)) (when true (:= x y) (:= x 3) (:= Report.acked x) (report))".toList

#guard refinesOn false 1 cexSrc2 [] = true

/-- a program with a plain bind used as a value (`Report.saved` is assigned inside the expression bound to
`Report.out`): outside `Stratified`, inside `InOracle` -/
def nestedSrc : List Char :=
  ("(def (Report (out 0) (saved 0))) (when true (:= Report.out (+ (* Ack.bytes_acked 2) " ++
   "(+ (:= Report.saved Ack.packets_acked) 1))) (report))").toList

#guard refinesOn false 1 nestedSrc [] = true

/-- the hypotheses of the simulation theorem for three programs, as one evaluation; each is stated again under
its name -/
theorem programs_hyps :
    ((match parseSource C13.exSrc with
      | some (_, evs) =>
        Stratified evs && InOracle evs &&
        (match compile 3 C13.exSrc [("bar".toList, 9)] with
          | .ok (bin, _) => bin.serialize.isOk
          | _ => false)
      | none => false) = true) ∧
    ((match parseSource cexSrc2 with
      | some (ds, evs) =>
        Stratified evs && InOracle evs && !DefBeforeUse ds evs &&
        (match compile 1 cexSrc2 [] with
          | .ok (bin, _) => bin.serialize.isOk
          | _ => false)
      | none => false) = true) ∧
    ((match parseSource nestedSrc with
      | some (_, evs) =>
        !Stratified evs && InOracle evs &&
        (match compile 1 nestedSrc [] with
          | .ok (bin, _) => bin.serialize.isOk
          | _ => false)
      | none => false) = true) := by
  decide_text [C13.exSrc, cexSrc2, nestedSrc]

/-- non-vacuity of T-A: the example program of C13 satisfies every hypothesis -/
theorem exSrc_hyps :
    (match parseSource C13.exSrc with
      | some (_, evs) =>
        Stratified evs && InOracle evs &&
        (match compile 3 C13.exSrc [("bar".toList, 9)] with
          | .ok (bin, _) => bin.serialize.isOk
          | _ => false)
      | none => false) = true := programs_hyps.1

/-- `cexSrc2` reads a never-assigned name (`DefBeforeUse` is false for it) and satisfies every hypothesis of T-A -/
theorem cexSrc2_hyps :
    (match parseSource cexSrc2 with
      | some (ds, evs) =>
        Stratified evs && InOracle evs && !DefBeforeUse ds evs &&
        (match compile 1 cexSrc2 [] with
          | .ok (bin, _) => bin.serialize.isOk
          | _ => false)
      | none => false) = true := programs_hyps.2.1

/-- `nestedSrc` is not stratified and satisfies every hypothesis of T-A -/
theorem nestedSrc_hyps :
    (match parseSource nestedSrc with
      | some (_, evs) =>
        !Stratified evs && InOracle evs &&
        (match compile 1 nestedSrc [] with
          | .ok (bin, _) => bin.serialize.isOk
          | _ => false)
      | none => false) = true := programs_hyps.2.2

end Portus.Lang.Frag
