import PortusModel.Lemmas.TextEval
import PortusModel.Lemmas.ParseRender
import PortusModel.Lemmas.Literals
/-!
# The three template programs of the C14 oracle, for every numeral: parsed, compiled, serialized

For each template the module gives `parseSource`, `declareAll`, `compileProg` and `Bin.serialize` as closed
forms in the numeral; `Props/C14` puts the four together with `compileAndSerialize_eq`. Nothing here is of use
beyond these three programs.

Parsing: an accepted numeral makes the template a rendering (`Lang/Render`) of its program, so `parse_render`
applies; a numeral that does not fit `u64` makes `atom` fail, and the failure rules of `ParseRender` carry that up
to `parseSource`.
-/
namespace Portus.Lang
open Portus Portus.Wire

def tmplOperand (ds : List Char) : List Char :=
  "(def (Report (x 0))) (when true (:= Report.x ".toList ++ ds ++ "))".toList

def tmplDefinition (ds : List Char) : List Char :=
  "(def (Report (x ".toList ++ ds ++ "))) (when true (report))".toList

def tmplOverride : List Char := "(def (Report (x 0)) (c 0)) (when true (report))".toList

theorem rdecl_x (ta : List Char) (n : Nat) (ha : RAtom (.num n) ta) :
    RDecl { vol := false, var := "x".toList, init := .num (some n) } (" (x ".toList ++ ta ++ ")".toList) := by
  have h := RDecl.mk false (x := "x".toList) (w0 := [' ']) (w1 := []) (w2 := []) (w3 := [' '])
    (w4 := []) (w5 := []) ws_sp Ws.nil Ws.nil (by decide) ws_sp rfl ha rfl Ws.nil Ws.nil
  -- the text of the constructor, appends reassociated
  simpa [volText, initTy] using h

theorem rdefs_x (ta : List Char) (n : Nat) (ha : RAtom (.num n) ta) :
    RDefs [{ vol := false, var := "Report.x".toList, init := .num (some n) }]
      ("(def (Report (x ".toList ++ ta ++ "))) ".toList) := by
  have h := RDefs.report (d1 := []) (d2 := []) (w0 := []) (t1 := []) (wr0 := [' ']) (wr1 := [])
    (wr2 := []) (wr3 := []) (t2 := []) (w1 := [' ']) Ws.nil .nil ws_sp Ws.nil
    (.cons (rdecl_x ta n ha) .nil) (by simp) Ws.nil Ws.nil .nil ws_sp
  simpa [reportPrefix] using h

theorem revents_operand (ds : List Char) (hne : ds ≠ []) (hd : ∀ c ∈ ds, isAsciiDigit c = true)
    (hlt : digitsVal ds < 2^64) :
    REvents [{ flag := .atom (.bool true),
               body := [.sexp .bind (.atom (.name "Report.x".toList)) (.atom (.num (digitsVal ds)))] }]
      ("(when true (:= Report.x ".toList ++ ds ++ "))".toList) := by
  have hs : RExpr (.sexp .bind (.atom (.name "Report.x".toList)) (.atom (.num (digitsVal ds)))) _ :=
    .sexp (ot := ":=".toList) (w0 := []) (w1 := [' ']) (w2 := [' ']) (w3 := []) (by decide) Ws.nil ws_sp
      (.atom (.name (x := "Report.x".toList) (by decide))) ws_sp (.inl (by simp)) (.atom (.num hne hd hlt)) Ws.nil (.inl rfl)
  have h := REvents.one (.plain (REvent.mk (w0 := []) (w1 := []) (w2 := [' ']) (w3 := [' ']) (w4 := []) (w5 := [])
    Ws.nil Ws.nil ws_sp (.atom .tt) ws_sp (.one (.stmt hs rfl)) Ws.nil Ws.nil))
  simpa using h

theorem tmplOperand_eq (ds : List Char) :
    tmplOperand ds = "(def (Report (x ".toList ++ ['0'] ++ "))) ".toList ++
      ("(when true (:= Report.x ".toList ++ ds ++ "))".toList) := by
  unfold tmplOperand
  -- a literal is `String.ofList` of its characters: no decoding in the kernel (`Lemmas/TextEval`)
  repeat rw [String.toList_ofList]
  rfl

theorem parse_operand_ok (ds : List Char) (hne : ds ≠ []) (hd : ∀ c ∈ ds, isAsciiDigit c = true)
    (hlt : digitsVal ds < 2^64) :
    parseSource (tmplOperand ds) =
      some ([{ vol := false, var := "Report.x".toList, init := .num (some 0) }],
            [{ flag := .atom (.bool true),
               body := [.sexp .bind (.atom (.name "Report.x".toList)) (.atom (.num (digitsVal ds)))] }]) := by
  have hp : RProg _ _ (tmplOperand ds) :=
    ⟨"(def (Report (x ".toList ++ ['0'] ++ "))) ".toList, "(when true (:= Report.x ".toList ++ ds ++ "))".toList,
      rdefs_x _ 0 ratom_zero, revents_operand ds hne hd hlt, tmplOperand_eq ds⟩
  rw [parse_render hp]
  simp only [List.map_cons, List.map_nil, desugar]

theorem parse_operand_big (ds : List Char) (hne : ds ≠ []) (hd : ∀ c ∈ ds, isAsciiDigit c = true)
    (hlt : ¬ digitsVal ds < 2^64) : parseSource (tmplOperand ds) = none := by
  have hdefs := rdefs_parse (rdefs_x _ 0 ratom_zero) ("(when true (:= Report.x ".toList ++ ds ++ "))".toList)
  rw [← tmplOperand_eq] at hdefs
  refine parseSource_none_of_events hdefs ?_
  -- the fuel is the length of the text plus one: `rexpr_parses_ws` wants it above the length of the token it reads
  -- (at most 8, one level down), `expr_numeral` wants one more level
  obtain ⟨f, hf⟩ : ∃ f, (tmplOperand ds).length + 1 = f + 10 := ⟨(tmplOperand ds).length - 9, by
    have : 9 ≤ (tmplOperand ds).length := by rw [tmplOperand_eq]; simp
    omega⟩
  rw [hf, events_eq]
  repeat rw [String.toList_ofList]
  have hnum : expr (f + 9) (skipSpace (skipSpace (' ' :: (ds ++ [')', ')'])))) = none := by
    rw [skipSpace_idem, skipSpace, if_pos sp_space, skipSpace_numeral ds _ hne hd,
      expr_numeral (f + 8) ds [')'] ')' rfl hne hd, if_neg hlt]
  have hname := rexpr_parses_ws (.atom (.name (x := "Report.x".toList) (by decide))) ws_sp
    (' ' :: (ds ++ [')', ')'])) (f + 9) (by simp) (fun _ => rfl)
  -- from the outside in: the first item of the event list fails, since the body of its event fails behind the
  -- condition `true`, since its first statement fails: an s-expression `:=` whose left operand is read (`hname`) and
  -- whose right operand is not (`hnum`); each `rfl` is `skipSpace` or `tag` on literal characters
  refine many1_none (evItem_none rfl (event_none_of_body (r0 := _) rfl rfl
    (rexpr_parses_ws (.atom .tt) ws_sp _ (f + 10) (by simp) (fun _ => rfl))
    (many1_none (expr_sexp_none (o := .bind) rfl (spelling_table (":=".toList, .bind) (by decide) _) rfl hname hnum))))

theorem revents_report :
    REvents [{ flag := .atom (.bool true), body := [.cmd .report] }] "(when true (report))".toList := by
  have h := REvents.one (.plain (REvent.mk (w0 := []) (w1 := []) (w2 := [' ']) (w3 := [' ']) (w4 := []) (w5 := [])
    Ws.nil Ws.nil ws_sp (.atom .tt) ws_sp (.one (.stmt (.cmd .report Ws.nil Ws.nil) rfl)) Ws.nil Ws.nil))
  repeat rw [String.toList_ofList]
  exact h

theorem parse_definition_ok (ds : List Char) (hne : ds ≠ []) (hd : ∀ c ∈ ds, isAsciiDigit c = true)
    (hlt : digitsVal ds < 2^64) :
    parseSource (tmplDefinition ds) =
      some ([{ vol := false, var := "Report.x".toList, init := .num (some (digitsVal ds)) }],
            [{ flag := .atom (.bool true),
               body := [.sexp .bind (.atom (.name "__shouldReport".toList)) (.atom (.bool true))] }]) := by
  have e : tmplDefinition ds = "(def (Report (x ".toList ++ ds ++ "))) ".toList ++ "(when true (report))".toList := by
    unfold tmplDefinition
    repeat rw [String.toList_ofList]
    simp only [List.append_assoc, List.cons_append, List.nil_append]
  have hp : RProg _ _ (tmplDefinition ds) :=
    ⟨_, _, rdefs_x ds _ (.num hne hd hlt), revents_report, e⟩
  rw [parse_render hp]
  simp only [List.map_cons, List.map_nil, desugar]

theorem parse_definition_big (ds : List Char) (hne : ds ≠ []) (hd : ∀ c ∈ ds, isAsciiDigit c = true)
    (hlt : ¬ digitsVal ds < 2^64) : parseSource (tmplDefinition ds) = none := by
  refine parseSource_none_of_defs ?_
  unfold tmplDefinition
  repeat rw [String.toList_ofList]
  have hatom : atom (skipSpace (' ' :: (ds ++ "))) (when true (report))".toList))) = none := by
    rw [skipSpace, if_pos sp_space, skipSpace_numeral ds _ hne hd, String.toList_ofList,
      atom_numeral ds _ hne hd (fun c h => by cases h; rfl), if_neg hlt]
  refine defs_none_of (r0 := _) rfl (decl_report_none (r0 := _) rfl rfl rfl rfl)
    (reportStruct_none_of_decl (r0 := _) rfl rfl (many1_none (decl_none_of_atom (r0 := _) (x := ['x']) rfl rfl
      (name_docName (x := ['x']) (by decide) rfl) ?_))) rfl
  rw [String.toList_ofList] at hatom
  exact hatom

theorem parse_override :
    parseSource tmplOverride =
      some ([{ vol := false, var := "Report.x".toList, init := .num (some 0) },
             { vol := false, var := "c".toList, init := .num (some 0) }],
            [{ flag := .atom (.bool true),
               body := [.sexp .bind (.atom (.name "__shouldReport".toList)) (.atom (.bool true))] }]) := by
  decide_text [tmplOverride]

/-! `declareAll_eq` gives the register file as `regInsert`s into the table of `Scope::new()`; what compilation
asks of it (three lookups, the `Def` preamble) follows from the algebra of `regGet` / `regInsert`. -/

/-- the shape of all three templates -/
theorem compileProg_bind_literal {sc : Scope} {x : Name} {rx fr im : Reg} {p : Prim}
    (hp : compileAtom p sc = .ok ⟨[], im, sc⟩) (him : im ≠ .none)
    (ht : sc.tmp = []) (hf : sc.get "__eventFlag".toList = some fr) (hx : sc.get x = some rx)
    (hty : ∀ s, rx.getType ≠ .name s) (hw : (isRC rx || isTIL rx) = true) :
    compileProg [{ flag := .atom (.bool true), body := [.sexp .bind (.atom (.name x)) (.atom p)] }] sc =
      .ok ({ events := [⟨(defInstrs sc.named).length, 1, (defInstrs sc.named).length + 1, 1⟩],
             instrs := defInstrs sc.named ++ [{ res := fr, op := .bind, left := fr, right := .immBool true },
                                              { res := rx, op := .bind, left := rx, right := im }] }, sc) := by
  have hc : sc.clearTmps = sc := by
    obtain ⟨_, _, _, _, _, _⟩ := sc; cases ht; rfl
  have hrx : rx ≠ .none := fun e => by subst e; cases hw
  have hb : compileAtom (.bool true) sc = .ok ⟨[], .immBool true, sc⟩ := rfl
  simp only [compileProg, compileEvents, compileFlag, compileBody, compileExpr, compileAtom_of_get hx, hb, hc, hf, hp,
    unwrapP, combine_bind, combineBind_typed sc _ hty him hw, hrx, Out.bind_ok, Out.pure_eq,
    List.length_cons, List.length_nil, List.nil_append, List.append_nil, reduceCtorEq, if_false]
  rfl

def flagBind : Instr := { res := flagReg, op := .bind, left := flagReg, right := .immBool true }
def reportReg : Reg := .implicit 2 (.bool none)
def reportBind : Instr := { res := reportReg, op := .bind, left := reportReg, right := .immBool true }

theorem reportReg_mem : ("__shouldReport", reportReg) ∈ builtinTable := by simp [builtinTable, reportReg]

def namedX (t : Ty) : List (Name × Reg) := regInsert "Report.x".toList (.report 0 t false) builtinNamed

/-- the scope after declaring `Report.x` with initial type `t`; uid 1 is what `Driver/Orc` passes, and the image does
not depend on it (`C20.compileAndSerialize_uid_indep`) -/
def scopeX (t : Ty) : Scope := { Scope.new 1 with numPerm := 1, named := namedX t }

theorem isPrefixOf_x : "Report.".toList.isPrefixOf "Report.x".toList = true := by decide_text

theorem declare_x (t : Ty) :
    declareAll (Scope.new 1) [{ vol := false, var := "Report.x".toList, init := t }] = .ok (scopeX t) := by
  rw [declareAll_eq _ _ ⟨rfl, rfl⟩]
  simp only [List.filter, isPrefixOf_x, Bool.not_true, List.length_cons, List.length_nil, insertDecls, reportDecl,
    Scope.new_named, scopeX, namedX]
  rfl

theorem namedX_get_builtin (t : Ty) {s : String} {r : Reg} (h : (s, r) ∈ builtinTable)
    (hne : s.toList ≠ "Report.x".toList) : regGet s.toList (namedX t) = some r :=
  (regGet_regInsert_ne hne _ _).trans (regGet_of_mem_nodup builtinNamed_nodup (mem_builtinNamed h))

theorem scopeX_get_x (t : Ty) : (scopeX t).get "Report.x".toList = some (.report 0 t false) :=
  regGet_regInsert_self _ _ _

theorem scopeX_get_flag (t : Ty) : (scopeX t).get "__eventFlag".toList = some flagReg :=
  namedX_get_builtin t flag_mem_builtinTable (by decide_text)

theorem scopeX_get_report (t : Ty) : (scopeX t).get "__shouldReport".toList = some reportReg :=
  namedX_get_builtin t reportReg_mem (by decide_text)

theorem scopeX_defInstrs (n : Nat) :
    defInstrs (scopeX (.num (some n))).named = [defNum (.report 0 (.num (some n)) false) n] :=
  defInstrs_regInsert (l₁ := []) (fun _ h => nomatch h) defInstrs_builtin

def operandBin (n : Nat) : Bin :=
  { events := [⟨1, 1, 2, 1⟩],
    instrs := [defNum (.report 0 (.num (some 0)) false) 0, flagBind,
               { res := .report 0 (.num (some 0)) false, op := .bind,
                 left := .report 0 (.num (some 0)) false, right := .immNum n }] }

theorem compileProg_operand (n : Nat) :
    compileProg [{ flag := .atom (.bool true),
                   body := [.sexp .bind (.atom (.name "Report.x".toList)) (.atom (.num n))] }]
        (scopeX (.num (some 0)))
      = .ok (operandBin n, scopeX (.num (some 0))) := by
  rw [compileProg_bind_literal (p := .num n) rfl nofun rfl (scopeX_get_flag _) (scopeX_get_x _)
    (fun _ h => by cases h) rfl, scopeX_defInstrs]
  rfl

def definitionBin (n : Nat) : Bin :=
  { events := [⟨1, 1, 2, 1⟩],
    instrs := [defNum (.report 0 (.num (some n)) false) n, flagBind, reportBind] }

theorem compileProg_definition (n : Nat) :
    compileProg [{ flag := .atom (.bool true),
                   body := [.sexp .bind (.atom (.name "__shouldReport".toList)) (.atom (.bool true))] }]
        (scopeX (.num (some n)))
      = .ok (definitionBin n, scopeX (.num (some n))) := by
  rw [compileProg_bind_literal (p := .bool true) rfl nofun rfl (scopeX_get_flag _) (scopeX_get_report _)
    (fun _ h => by cases h) rfl, scopeX_defInstrs]
  rfl

/-- the scope after declaring `Report.x` and `c`, `c` having recorded type `t` -/
def namedXC (t : Ty) : List (Name × Reg) :=
  regInsert "c".toList (.control 0 t false) (namedX (.num (some 0)))

def scopeXC (t : Ty) : Scope := { Scope.new 1 with numPerm := 1, numControl := 1, named := namedXC t }

theorem declare_xc :
    declareAll (Scope.new 1) [{ vol := false, var := "Report.x".toList, init := .num (some 0) },
                              { vol := false, var := "c".toList, init := .num (some 0) }]
      = .ok (scopeXC (.num (some 0))) := by
  have isPrefixOf_c : "Report.".toList.isPrefixOf "c".toList = false := by decide_text
  rw [declareAll_eq _ _ ⟨rfl, rfl⟩]
  simp only [List.filter, isPrefixOf_x, isPrefixOf_c, Bool.not_true, Bool.not_false, List.length_cons,
    List.length_nil, insertDecls, reportDecl, controlDecl, Scope.new_named, scopeXC, namedXC, namedX]
  rfl

theorem scopeXC_updateType (t t' : Ty) :
    (scopeXC t).updateType "c".toList t' = .ok (.control 0 t' false, scopeXC t') := by
  have hg : (scopeXC t).get "c".toList = some (.control 0 t false) := regGet_regInsert_self _ _ _
  rw [Scope.updateType_eq, hg]
  simp only [Option.bind_some, Reg.setTy, scopeXC, namedXC, regSet_regInsert_self]

theorem scopeXC_get_builtin (t : Ty) {s : String} {r : Reg} (h : (s, r) ∈ builtinTable)
    (h1 : s.toList ≠ "c".toList) (h2 : s.toList ≠ "Report.x".toList) : (scopeXC t).get s.toList = some r :=
  (regGet_regInsert_ne h1 _ _).trans (namedX_get_builtin _ h h2)

theorem scopeXC_get_flag (t : Ty) : (scopeXC t).get "__eventFlag".toList = some flagReg :=
  scopeXC_get_builtin t flag_mem_builtinTable (by decide_text) (by decide_text)

theorem scopeXC_get_report (t : Ty) : (scopeXC t).get "__shouldReport".toList = some reportReg :=
  scopeXC_get_builtin t reportReg_mem (by decide_text) (by decide_text)

/-- `c` sorts behind `Report.x` and behind whatever sorts before `Report.x` -/
theorem scopeXC_defInstrs (v : Nat) :
    defInstrs (scopeXC (.num (some v))).named =
      [defNum (.report 0 (.num (some 0)) false) 0, defNum (.control 0 (.num (some v)) false) v] := by
  have hxc : strLt "Report.x".toList "c".toList = true := by decide_text
  obtain ⟨l₁, l₂, e, h1, hx⟩ : ∃ l₁ l₂, builtinNamed = l₁ ++ l₂ ∧ (∀ p ∈ l₁, strLt p.1 "Report.x".toList = true) ∧
      ∀ r, regInsert "Report.x".toList r builtinNamed = l₁ ++ (("Report.x".toList, r) :: l₂) :=
    regInsert_split _ builtinNamed
  have d12 : defInstrs l₁ = [] ∧ defInstrs l₂ = [] := by
    have := defInstrs_builtin; rw [e, defInstrs_append] at this; exact List.append_eq_nil_iff.mp this
  rw [scopeXC, namedXC, namedX, hx, List.append_cons]
  rw [defInstrs_regInsert (l₂ := l₂) ?_ d12.2, defInstrs_append, d12.1]
  · rfl
  · exact forall_snoc (fun p hp => strLt_trans (h1 p hp) hxc) hxc

def overrideBin (v : Nat) : Bin :=
  { events := [⟨2, 1, 3, 1⟩],
    instrs := [defNum (.report 0 (.num (some 0)) false) 0,
               defNum (.control 0 (.num (some v)) false) v, flagBind, reportBind] }

theorem compileProg_override (v : Nat) :
    compileProg [{ flag := .atom (.bool true),
                   body := [.sexp .bind (.atom (.name "__shouldReport".toList)) (.atom (.bool true))] }]
        (scopeXC (.num (some v)))
      = .ok (overrideBin v, scopeXC (.num (some v))) := by
  rw [compileProg_bind_literal (p := .bool true) rfl nofun rfl (scopeXC_get_flag _) (scopeXC_get_report _)
    (fun _ h => by cases h) rfl, scopeXC_defInstrs]
  rfl

theorem ser_report0 (t : Ty) : (Reg.report 0 t false).serialize = .ok [6, 0, 0, 0, 0] := rfl
theorem ser_control0 (t : Ty) : (Reg.control 0 t false).serialize = .ok [0, 0, 0, 0, 0] := rfl
theorem ser_flagReg : flagReg.serialize = .ok [2, 0, 0, 0, 0] := by decide
theorem ser_reportReg : reportReg.serialize = .ok [2, 2, 0, 0, 0] := by decide
theorem ser_true : (Reg.immBool true).serialize = .ok [1, 1, 0, 0, 0] := by decide
theorem ser_zero : (Reg.immNum 0).serialize = .ok [1, 0, 0, 0, 0] := by decide

theorem byte_one : byte 1 = 1 := rfl
theorem byte_two : byte 2 = 2 := rfl

/-- the first 59 bytes of the operand template's image: the event record, `DEF Report.x 0`, the flag
instruction, and opcode/result/left of the body instruction -/
def operandPre : Bytes :=
  [1,0,0,0, 1,0,0,0, 2,0,0,0, 1,0,0,0,
   2, 6,0,0,0,0, 6,0,0,0,0, 1,0,0,0,0,
   1, 2,0,0,0,0, 2,0,0,0,0, 1,1,0,0,0,
   1, 6,0,0,0,0, 6,0,0,0,0]

/-- the image is the fixed bytes around the encoding of the literal, which is the only part that can fail -/
theorem serialize_operandBin (n : Nat) :
    (operandBin n).serialize = (Reg.immNum n).serialize >>= fun imm => pure (operandPre ++ imm) := by
  have e : EvRec.serialize ⟨1, 1, 2, 1⟩ = [1,0,0,0, 1,0,0,0, 2,0,0,0, 1,0,0,0] := by decide
  cases h : (Reg.immNum n).serialize with
  | panic => exact absurd h (Reg.serialize_ne_panic nofun)
  | err =>
    simp only [operandBin, Bin.serialize, serializeInstrs, Instr.serialize, defNum, flagBind, serializeOp,
      ser_report0, ser_flagReg, ser_true, ser_zero, h, Out.bind_ok, Out.pure_eq, Out.bind_err]
  | ok imm =>
    simp only [operandBin, Bin.serialize, serializeInstrs, Instr.serialize, defNum, flagBind, serializeOp,
      ser_report0, ser_flagReg, ser_true, ser_zero, h, Out.bind_ok, Out.pure_eq, List.flatMap_cons, List.flatMap_nil, e]
    simp only [byte_one, byte_two, operandPre, List.cons_append, List.nil_append, List.append_nil]

/-- bytes 0–26 of the definition template's image: the event record and opcode/result/left of `DEF Report.x` -/
def definitionPre : Bytes :=
  [1,0,0,0, 1,0,0,0, 2,0,0,0, 1,0,0,0,
   2, 6,0,0,0,0, 6,0,0,0,0]

/-- the flag and report instructions -/
def tailInstrs : Bytes :=
  [1, 2,0,0,0,0, 2,0,0,0,0, 1,1,0,0,0,
   1, 2,2,0,0,0, 2,2,0,0,0, 1,1,0,0,0]

theorem serialize_definitionBin (n : Nat) :
    (definitionBin n).serialize =
      (Reg.immNum n).serialize >>= fun imm => pure (definitionPre ++ imm ++ tailInstrs) := by
  have e : EvRec.serialize ⟨1, 1, 2, 1⟩ = [1,0,0,0, 1,0,0,0, 2,0,0,0, 1,0,0,0] := by decide
  cases h : (Reg.immNum n).serialize with
  | panic => exact absurd h (Reg.serialize_ne_panic nofun)
  | err =>
    simp only [definitionBin, Bin.serialize, serializeInstrs, Instr.serialize, defNum, flagBind, reportBind, serializeOp,
      ser_report0, ser_flagReg, ser_reportReg, ser_true, h, Out.bind_ok, Out.pure_eq, Out.bind_err]
  | ok imm =>
    simp only [definitionBin, Bin.serialize, serializeInstrs, Instr.serialize, defNum, flagBind, reportBind, serializeOp,
      ser_report0, ser_flagReg, ser_reportReg, ser_true, h, Out.bind_ok, Out.pure_eq, List.flatMap_cons, List.flatMap_nil, e]
    simp only [byte_one, byte_two, definitionPre, tailInstrs, List.cons_append, List.nil_append, List.append_nil]

/-- bytes 0–42 of the override template's image: the event record, `DEF Report.x 0`, and
opcode/result/left of `DEF c` -/
def overridePre : Bytes :=
  [2,0,0,0, 1,0,0,0, 3,0,0,0, 1,0,0,0,
   2, 6,0,0,0,0, 6,0,0,0,0, 1,0,0,0,0,
   2, 0,0,0,0,0, 0,0,0,0,0]

theorem serialize_overrideBin (v : Nat) :
    (overrideBin v).serialize = (Reg.immNum v).serialize >>= fun imm => pure (overridePre ++ imm ++ tailInstrs) := by
  have e : EvRec.serialize ⟨2, 1, 3, 1⟩ = [2,0,0,0, 1,0,0,0, 3,0,0,0, 1,0,0,0] := by decide
  cases h : (Reg.immNum v).serialize with
  | panic => exact absurd h (Reg.serialize_ne_panic nofun)
  | err =>
    simp only [overrideBin, Bin.serialize, serializeInstrs, Instr.serialize, defNum, flagBind, reportBind, serializeOp,
      ser_report0, ser_control0, ser_flagReg, ser_reportReg, ser_true, ser_zero, h, Out.bind_ok, Out.pure_eq, Out.bind_err]
  | ok imm =>
    simp only [overrideBin, Bin.serialize, serializeInstrs, Instr.serialize, defNum, flagBind, reportBind, serializeOp,
      ser_report0, ser_control0, ser_flagReg, ser_reportReg, ser_true, ser_zero, h, Out.bind_ok, Out.pure_eq,
      List.flatMap_cons, List.flatMap_nil, e]
    simp only [byte_one, byte_two, overridePre, tailInstrs, List.cons_append, List.nil_append, List.append_nil]

end Portus.Lang
