/-! Association lists as finite maps: `List.lookup` against `filter`, `map`, membership and unique keys. -/
namespace Portus.Assoc
variable {κ β γ : Type} [BEq κ] [LawfulBEq κ]

theorem lookup_filter_key (l : List (κ × β)) (q : κ → Prop) [DecidablePred q] (k : κ) :
    (l.filter fun p => q p.1).lookup k = if q k then l.lookup k else none := by
  induction l with
  | nil => simp
  | cons p rest ih =>
    obtain ⟨k', v⟩ := p
    by_cases hk : k = k'
    · subst hk
      by_cases hq : q k <;> simp [hq, ih]
    · have hk' : (k == k') = false := beq_false_of_ne hk
      by_cases hq : q k' <;> simp [hq, ih, List.lookup_cons, hk']

theorem lookup_filter_ne [DecidableEq κ] (l : List (κ × β)) (a b : κ) :
    (l.filter fun p => p.1 ≠ a).lookup b = if b = a then none else l.lookup b :=
  (lookup_filter_key l (· ≠ a) b).trans (ite_not ..)

theorem lookup_cons_filter_ne [DecidableEq κ] (l : List (κ × β)) (k : κ) (v : β) (b : κ) :
    ((k, v) :: l.filter fun p => p.1 ≠ k).lookup b = if b = k then some v else l.lookup b := by
  rw [List.lookup_cons, lookup_filter_ne]
  by_cases hb : b = k
  · simp [hb]
  · simp [hb, beq_false_of_ne hb]

omit [LawfulBEq κ] in
theorem lookup_map_val (f : β → γ) (l : List (κ × β)) (k : κ) :
    (l.map fun p => (p.1, f p.2)).lookup k = (l.lookup k).map f := by
  induction l with
  | nil => rfl
  | cons p rest ih =>
    obtain ⟨k', v⟩ := p
    simp only [List.map_cons, List.lookup_cons, ih]
    cases k == k' <;> rfl

theorem eq_lookup [DecidableEq κ] {f : κ → List (κ × β) → Option β} (h0 : ∀ k, f k [] = none)
    (h1 : ∀ k a v l, f k ((a, v) :: l) = if a = k then some v else f k l) (k : κ) (l : List (κ × β)) :
    f k l = l.lookup k := by
  induction l with
  | nil => exact h0 k
  | cons p rest ih =>
    obtain ⟨a, v⟩ := p
    rw [h1, List.lookup_cons, ih]
    by_cases h : a = k
    · simp [h]
    · simp [h, beq_false_of_ne (Ne.symm h)]

theorem mem_of_lookup {l : List (κ × β)} {k : κ} {v : β} (h : l.lookup k = some v) : (k, v) ∈ l := by
  obtain ⟨l₁, l₂, rfl, _⟩ := List.lookup_eq_some_iff.mp h
  simp

omit [BEq κ] [LawfulBEq κ] in
theorem nodup_keys_filter {α : Type} {f : α → κ} (l : List α) (q : α → Bool) (h : (l.map f).Nodup) :
    ((l.filter q).map f).Nodup :=
  h.sublist (List.Sublist.map _ List.filter_sublist)

omit [BEq κ] [LawfulBEq κ] in
theorem nodup_cons_filter_ne [DecidableEq κ] (l : List (κ × β)) (k : κ) (v : β) (h : (l.map (·.1)).Nodup) :
    (((k, v) :: l.filter fun p => p.1 ≠ k).map (·.1)).Nodup := by
  simp only [List.map_cons, List.nodup_cons]
  refine ⟨fun hk => ?_, nodup_keys_filter l _ h⟩
  obtain ⟨p, hp, e⟩ := List.mem_map.mp hk
  exact of_decide_eq_true (List.mem_filter.mp hp).2 e

theorem lookup_of_mem_nodup (l : List (κ × β)) (h : (l.map (·.1)).Nodup) (k : κ) (v : β) (hm : (k, v) ∈ l) :
    l.lookup k = some v := by
  obtain ⟨l₁, l₂, rfl⟩ := List.append_of_mem hm
  rw [List.map_append, List.nodup_append] at h
  refine List.lookup_eq_some_iff.mpr ⟨l₁, l₂, rfl, fun p hp => ?_⟩
  simpa using fun e => h.2.2 p.1 (List.mem_map_of_mem hp) k (by simp) e.symm

theorem filter_key_eq [DecidableEq κ] (l : List (κ × β)) (k : κ) (h : (l.map (·.1)).Nodup) :
    l.filter (fun p => p.1 = k) = (l.lookup k).toList.map (k, ·) := by
  induction l with
  | nil => rfl
  | cons p rest ih =>
    obtain ⟨a, v⟩ := p
    simp only [List.map_cons, List.nodup_cons] at h
    by_cases ha : a = k
    · subst ha
      have hrest : rest.filter (fun p => p.1 = a) = [] := by
        rw [List.filter_eq_nil_iff]
        intro q hq
        simp only [decide_eq_true_eq]
        exact fun e => h.1 (e ▸ List.mem_map_of_mem (f := (·.1)) hq)
      simp [hrest]
    · have : (k == a) = false := beq_false_of_ne fun e => ha e.symm
      rw [List.filter_cons_of_neg (by simpa using ha), List.lookup_cons, this]
      exact ih h.2

theorem perm_of_lookup_eq {l1 l2 : List (κ × β)} (h1 : (l1.map (·.1)).Nodup)
    (h2 : (l2.map (·.1)).Nodup) (h : ∀ k, l1.lookup k = l2.lookup k) : l1.Perm l2 := by
  have nd : ∀ {l : List (κ × β)}, (l.map (·.1)).Nodup → l.Nodup := fun hl =>
    List.Pairwise.of_map (fun p : κ × β => p.1) (fun _ _ hne e => hne (e ▸ rfl)) hl
  rw [List.perm_ext_iff_of_nodup (nd h1) (nd h2)]
  exact fun ⟨k, v⟩ => ⟨fun hm => mem_of_lookup (h k ▸ lookup_of_mem_nodup l1 h1 k v hm),
    fun hm => mem_of_lookup (h k ▸ lookup_of_mem_nodup l2 h2 k v hm)⟩

end Portus.Assoc
