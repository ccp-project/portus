import PortusModel.Rt.Run
/-!
# C15 — the algorithm named in a create message handles the flow; default otherwise
`Cfg.pick` models `Pick::pick` over the registration list (default first, then the additional
algorithms in registration order); `unionProgs` models `CollectDps::datapath_programs` (`Cfg.progs` is free data:
no definition ties the installed programs to this union).
-/
namespace Portus.C15
open Portus Portus.Rt

/-- registration `i ≥ 1` matches `name`: it has an instance and its name is exactly `name` -/
def Matches (algs : List AlgInfo) (name : Bytes) (i : Nat) : Prop :=
  1 ≤ i ∧ ∃ a, algs[i]? = some a ∧ a.hasInstance = true ∧ a.name = name

theorem pickFrom_eq (l : List (Nat × AlgInfo)) (name : Bytes) :
    pickFrom l name = ((l.find? fun p => p.2.hasInstance ∧ p.2.name = name).map (·.1)).getD 0 := by
  induction l with
  | nil => rfl
  | cons x rest ih =>
    obtain ⟨i, a⟩ := x
    by_cases h : a.hasInstance = true ∧ a.name = name <;> simp [pickFrom, h, ih]

theorem numberFrom_eq (i : Nat) (l : List AlgInfo) : numberFrom i l = (l.zipIdx i).map fun p => (p.2, p.1) := by
  induction l generalizing i with
  | nil => rfl
  | cons a rest ih => simp [numberFrom, ih]

private theorem mem_numberFrom {i : Nat} {l : List AlgInfo} {p : Nat × AlgInfo} :
    p ∈ numberFrom i l ↔ i ≤ p.1 ∧ l[p.1 - i]? = some p.2 := by
  rw [numberFrom_eq, List.mem_map]
  constructor
  · rintro ⟨q, hq, rfl⟩
    exact List.mem_zipIdx_iff_le_and_getElem?_sub.mp hq
  · intro h
    exact ⟨(p.2, p.1), List.mem_zipIdx_iff_le_and_getElem?_sub.mpr h, rfl⟩

private theorem numberFrom_pairwise (i : Nat) (l : List AlgInfo) :
    (numberFrom i l).Pairwise (fun x y => x.1 < y.1) := by
  induction l generalizing i with
  | nil => simp [numberFrom]
  | cons a rest ih =>
    simp only [numberFrom, List.pairwise_cons]
    refine ⟨?_, ih (i + 1)⟩
    intro q hq
    have := (mem_numberFrom.mp hq).1
    show i < q.1
    omega

/-- the additional registrations, most recent first, with their numbers: the list `Cfg.pick` searches, under a name
(`hpick` in `pick_spec` is `rfl`) -/
def candidates (algs : List AlgInfo) : List (Nat × AlgInfo) := (numberFrom 1 algs.tail).reverse

private theorem mem_candidates {algs : List AlgInfo} {p : Nat × AlgInfo} :
    p ∈ candidates algs ↔ 1 ≤ p.1 ∧ algs[p.1]? = some p.2 := by
  unfold candidates
  rw [List.mem_reverse, mem_numberFrom]
  cases algs with
  | nil => simp
  | cons a rest =>
    rw [List.tail_cons, List.getElem?_cons]
    exact and_congr_right fun h1 => by rw [if_neg (by omega)]

/-- **The named algorithm handles the flow.** If some registered algorithm with an instance has exactly
the requested name, the pick is such a registration and no later (more recent) registration matches —
"the most recently registered instance if a name was registered twice". -/
theorem pick_spec (cfg : Cfg) (name : Bytes) :
    (cfg.pick name = 0 ∧ ∀ i, ¬ Matches cfg.algs name i) ∨
    (Matches cfg.algs name (cfg.pick name) ∧ ∀ j, cfg.pick name < j → ¬ Matches cfg.algs name j) := by
  have hpick : cfg.pick name = pickFrom (candidates cfg.algs) name := rfl
  rw [hpick, pickFrom_eq]
  cases hf : (candidates cfg.algs).find? fun p => p.2.hasInstance ∧ p.2.name = name with
  | none =>
    left
    refine ⟨rfl, ?_⟩
    intro i ⟨hi, a, ha, hinst, hname⟩
    have hm : (i, a) ∈ candidates cfg.algs := mem_candidates.mpr ⟨hi, ha⟩
    simpa [hinst, hname] using List.find?_eq_none.mp hf (i, a) hm
  | some p =>
    right
    simp only [Option.map_some, Option.getD_some]
    obtain ⟨hp, pre, post, e, hpre⟩ := List.find?_eq_some_iff_append.mp hf
    simp only [decide_eq_true_eq] at hp
    have hmem : p ∈ candidates cfg.algs := by rw [e]; simp
    obtain ⟨hp1, hp2⟩ := mem_candidates.mp hmem
    refine ⟨⟨hp1, p.2, hp2, hp.1, hp.2⟩, ?_⟩
    intro j hj ⟨hj1, a, ha, hinst, hname⟩
    have hm : (j, a) ∈ candidates cfg.algs := mem_candidates.mpr ⟨hj1, ha⟩
    rw [e] at hm
    simp only [List.mem_append, List.mem_cons] at hm
    rcases hm with hm | hm | hm
    · simpa [hinst, hname] using hpre (j, a) hm
    · rw [← hm] at hj; simp at hj
    · -- entries after `p` in most-recent-first order have smaller numbers
      have hpw : (candidates cfg.algs).Pairwise (fun x y => y.1 < x.1) :=
        List.pairwise_reverse.mpr (numberFrom_pairwise 1 _)
      rw [e] at hpw
      have h3 := (List.pairwise_append.mp hpw).2.1
      have h4 := (List.pairwise_cons.mp h3).1 (j, a) hm
      simp only at h4
      omega

/-- empty, unknown or instance-less names fall to the default -/
theorem pick_default (cfg : Cfg) (name : Bytes) (h : ∀ i, ¬ Matches cfg.algs name i) : cfg.pick name = 0 := by
  rcases pick_spec cfg name with ⟨h0, _⟩ | ⟨hm, _⟩
  · exact h0
  · exact absurd hm (h _)

/-- **Every registered instance's programs are collected** (whichever algorithms flows later select):
each program name of each algorithm with an instance is a key of the union, and the source kept for it
is the one of the earliest registration that defines that name. -/
theorem programs_are_union {α : Type} (algs : List (Bool × List (String × α))) :
    ∀ a ∈ algs, a.1 = true → ∀ p ∈ a.2, ∃ q ∈ unionProgs algs, q.1 = p.1 := by
  induction algs with
  | nil => simp
  | cons x rest ih =>
    obtain ⟨inst, ps⟩ := x
    intro a ha hinst p hp
    simp only [List.mem_cons] at ha
    simp only [unionProgs]
    rcases ha with rfl | ha
    · simp only at hinst hp
      exact ⟨p, by simp [hinst, hp], rfl⟩
    · obtain ⟨q, hq, hqe⟩ := ih a ha hinst p hp
      by_cases hc : ((if inst then ps else []).any fun p' => p'.1 == q.1) = true
      · obtain ⟨p', hp', hpe⟩ := List.any_eq_true.mp hc
        exact ⟨p', by simp [hp'], by rw [← hqe]; simpa using hpe⟩
      · exact ⟨q, by simp [hq, hc], hqe⟩

example : (Cfg.pick ⟨[⟨[1], true⟩, ⟨[2], true⟩, ⟨[3], false⟩, ⟨[2], true⟩], []⟩ [2]) = 3 := by decide
example : (Cfg.pick ⟨[⟨[1], true⟩, ⟨[2], true⟩, ⟨[3], false⟩, ⟨[2], true⟩], []⟩ [3]) = 0 := by decide
example : (Cfg.pick ⟨[⟨[1], true⟩, ⟨[2], true⟩], []⟩ []) = 0 := by decide

end Portus.C15
