import PortusModel.Wire.Dp
/-! The decoder (`Wire/Dp`) in closed form: each stage (`deserialize`, the three `…FromRaw`, `fromRaw`, `fromBuf`) as one
`if`/`match` on the bytes, with no slice, index or fuel left. `algSpec` and `fieldsSpec` are how the closed forms,
and the oracles of C04 and C07, read a name and the measurement values. -/
namespace Portus.Wire
open Portus

/-- The algorithm name as the specification reads it from the name block:
bytes up to the first NUL; an empty name or a block without NUL is "no name". -/
def algSpec (b : Bytes) : Option Bytes :=
  match nulPos b with
  | none => none
  | some 0 => none
  | some e => some (b.take e)

/-- The measurement values as the specification reads them: consecutive little-endian words. -/
def fieldsSpec (b : Bytes) : List Nat :=
  (List.range (b.length / 8)).map fun i => rd64 (b.drop (8 * i))

theorem deserialize_eq (buf : Bytes) : deserialize buf =
    if buf.length < 8 ∨ rd16 buf > 255 ∨ rd16 (buf.drop 2) < 8 ∨ rd16 (buf.drop 2) > buf.length then .err
    else .ok ⟨rd16 buf, rd16 (buf.drop 2), rd32 (buf.drop 4), (buf.drop 8).take (rd16 (buf.drop 2) - 8)⟩ := by
  unfold deserialize
  by_cases h : buf.length < 8 ∨ rd16 buf > 255 ∨ rd16 (buf.drop 2) < 8 ∨ rd16 (buf.drop 2) > buf.length
  · rw [if_pos h]
    by_cases h1 : buf.length < 8
    · rw [if_pos h1]
    by_cases h2 : rd16 buf > 255
    · rw [if_neg h1]; exact if_pos h2
    by_cases h3 : rd16 (buf.drop 2) < 8
    · rw [if_neg h1]; exact (if_neg h2).trans (if_pos h3)
    · rw [if_neg h1]; exact (if_neg h2).trans ((if_neg h3).trans (if_pos (by omega)))
  · rw [if_neg h, if_neg (by omega)]
    refine (if_neg (by omega)).trans ((if_neg (by omega)).trans ((if_neg (by omega)).trans ?_))
    rw [sliceP_ok _ _ _ (by omega)]
    rfl

theorem deserialize_no_panic (buf : Bytes) : deserialize buf ≠ .panic := by
  rw [deserialize_eq]
  split <;> simp

theorem deserialize_ok {buf : Bytes} {r : Raw} (h : deserialize buf = .ok r) :
    8 ≤ buf.length ∧ r.typ = rd16 buf ∧ r.typ ≤ 255 ∧ r.len = rd16 (buf.drop 2) ∧ 8 ≤ r.len ∧ r.len ≤ buf.length ∧
    r.sid = rd32 (buf.drop 4) ∧ r.bytes = (buf.drop 8).take (r.len - 8) := by
  rw [deserialize_eq] at h
  split at h
  · cases h
  · cases h
    dsimp only
    exact ⟨by omega, rfl, by omega, rfl, by omega, by omega, rfl, rfl⟩

theorem u32At_ok (u : Bytes) (k : Nat) (h : 4 * k + 4 ≤ u.length) :
    u32At u k = .ok (rd32 (u.drop (4 * k))) := by simp [u32At, h]

theorem u32At_take (b : Bytes) (n k : Nat) (h : 4 * k + 4 ≤ n) (hn : n ≤ b.length) :
    u32At (b.take n) k = .ok (rd32 (b.drop (4 * k))) := by
  rw [u32At_ok _ _ (by simp; omega), List.drop_take, rd32_take _ _ (by omega)]

theorem deserializeFields_no_panic (fuel : Nat) (b : Bytes) : deserializeFields fuel b ≠ .panic := by
  induction fuel generalizing b with
  | zero => nofun
  | succ n ih =>
    unfold deserializeFields
    split
    · nofun
    · split
      · nofun
      · exact Out.bind_no_panic _ _ (ih _) fun _ _ => nofun

/-- `get_u32s` of a predefined type with an `n`-byte fixed block -/
theorem getU32s_eq (m : Raw) (n : Nat)
    (h : m.typ = CREATE ∧ n = 24 ∨ m.typ = MEASURE ∧ n = 8 ∨ m.typ = READY ∧ n = 4) :
    getU32s m = if m.bytes.length < n then .err else .ok (m.bytes.take n) := by
  unfold getU32s
  rcases h with ⟨h, rfl⟩ | ⟨h, rfl⟩ | ⟨h, rfl⟩ <;>
  · simp only [h, CREATE, MEASURE, UPDATE_FIELD, READY]
    simp
    split
    · rfl
    · rw [sliceP_ok _ _ _ (by omega)]; simp

theorem getBytes_eq (m : Raw) (n : Nat) (h : m.typ = CREATE ∧ n = 24 ∨ m.typ = MEASURE ∧ n = 8) :
    getBytes m = if n ≤ m.bytes.length then .ok (m.bytes.drop n) else .err := by
  rcases h with ⟨h, rfl⟩ | ⟨h, rfl⟩ <;> simp [getBytes, h, MEASURE, CREATE]

theorem nulPos_lt {b : Bytes} {e : Nat} (h : nulPos b = some e) : e < b.length := by
  induction b generalizing e with
  | nil => simp [nulPos] at h
  | cons x xs ih =>
    unfold nulPos at h
    split at h
    · cases h; simp
    · obtain ⟨k, hk, rfl⟩ := Option.map_eq_some_iff.mp h
      have := ih hk
      simp; omega

theorem createFromRaw_eq (m : Raw) (h : m.typ = CREATE) :
    createFromRaw m =
      if m.bytes.length < 88 ∨ (algSpec (m.bytes.drop 24)).all validUtf8 = false then .err
      else .ok { sid := m.sid, cwnd := rd32 m.bytes, mss := rd32 (m.bytes.drop 4),
                 srcIp := rd32 (m.bytes.drop 8), srcPort := rd32 (m.bytes.drop 12),
                 dstIp := rd32 (m.bytes.drop 16), dstPort := rd32 (m.bytes.drop 20),
                 alg := algSpec (m.bytes.drop 24) } := by
  unfold createFromRaw algSpec
  rw [getU32s_eq m 24 (.inl ⟨h, rfl⟩), getBytes_eq m 24 (.inl ⟨h, rfl⟩)]
  by_cases h24 : m.bytes.length < 24
  · have : m.bytes.length < 88 := by omega
    simp [h24, this]
  · have h24' : 24 ≤ m.bytes.length := by omega
    simp only [h24, h24', if_true, if_false, Out.bind_ok]
    by_cases h88 : m.bytes.length < 88
    · have : (m.bytes.drop 24).length < 64 := by simp; omega
      rw [if_pos this, if_pos (.inl h88)]
    · have h64 : ¬ (m.bytes.drop 24).length < 64 := by simp; omega
      rw [if_neg h64]
      have hu := fun k hk => u32At_take m.bytes 24 k hk h24'
      have h0 := hu 0 (by omega); have h1 := hu 1 (by omega); have h2 := hu 2 (by omega)
      have h3 := hu 3 (by omega); have h4 := hu 4 (by omega); have h5 := hu 5 (by omega)
      simp only [Nat.mul_zero, List.drop_zero] at h0
      cases hn : nulPos (m.bytes.drop 24) with
      | none => simp [h0, h1, h2, h3, h4, h5, h88]
      | some e =>
        cases e with
        | zero => simp [h0, h1, h2, h3, h4, h5, h88]
        | succ e =>
          have hl := nulPos_lt hn
          simp only
          rw [sliceP_ok _ _ _ (by omega)]
          simp only [Out.bind_ok, List.drop_zero, Nat.sub_zero]
          split <;> simp [*]

theorem fieldsSpec_step (b : Bytes) (h : 8 ≤ b.length) :
    fieldsSpec b = rd64 b :: fieldsSpec (b.drop 8) := by
  unfold fieldsSpec
  have hl : b.length / 8 = (b.drop 8).length / 8 + 1 := by simp; omega
  rw [hl, List.range_succ_eq_map]
  simp [List.map_map, Function.comp_def, Nat.mul_add, Nat.add_comm]

theorem deserializeFields_eq (fuel : Nat) (b : Bytes) (hf : b.length / 8 < fuel) :
    deserializeFields fuel b = if b.length % 8 = 0 then .ok (fieldsSpec b) else .err := by
  induction fuel generalizing b with
  | zero => omega
  | succ n ih =>
    unfold deserializeFields
    by_cases h0 : b.length = 0
    · have : b = [] := List.eq_nil_of_length_eq_zero h0
      subst this; simp [fieldsSpec]
    · rw [if_neg h0]
      by_cases h8 : b.length < 8
      · rw [if_pos h8, if_neg (by omega)]
      · rw [if_neg h8]
        have := ih (b.drop 8) (by simp; omega)
        rw [this]
        have hm : (b.drop 8).length % 8 = b.length % 8 := by simp; omega
        rw [hm]
        split
        · simp [fieldsSpec_step b (by omega)]
        · simp

theorem measureFromRaw_eq (m : Raw) (h : m.typ = MEASURE) :
    measureFromRaw m =
      if m.bytes.length < 8 ∨ rd32 (m.bytes.drop 4) > 255 ∨ (m.bytes.length - 8) % 8 ≠ 0 then .err
      else .ok { sid := m.sid, uid := rd32 m.bytes, numFields := rd32 (m.bytes.drop 4),
                 fields := fieldsSpec (m.bytes.drop 8) } := by
  unfold measureFromRaw
  rw [getU32s_eq m 8 (.inr (.inl ⟨h, rfl⟩)), getBytes_eq m 8 (.inr ⟨h, rfl⟩)]
  by_cases h8 : m.bytes.length < 8
  · simp [h8]
  · have h8' : 8 ≤ m.bytes.length := by omega
    simp only [h8, h8', if_true, if_false, Out.bind_ok, false_or]
    rw [u32At_take _ 8 0 (by omega) h8', u32At_take _ 8 1 (by omega) h8']
    simp only [Out.bind_ok, Nat.mul_zero, List.drop_zero, Nat.mul_one]
    split
    · rw [if_pos (.inl ‹_›)]
    · rw [deserializeFields_eq _ _ (by omega)]
      simp only [List.length_drop]
      split <;> simp [*]

theorem readyFromRaw_eq (m : Raw) (h : m.typ = READY) :
    readyFromRaw m = if m.bytes.length < 4 then .err else .ok (rd32 m.bytes) := by
  unfold readyFromRaw
  rw [getU32s_eq m 4 (.inr (.inr ⟨h, rfl⟩))]
  split
  · rfl
  · rw [Out.bind_ok, u32At_take _ 4 0 (by omega) (by omega)]
    rfl

/-- `from_raw_msg` dispatches on the type code -/
theorem fromRaw_eq_ok {r : Raw} {m : Msg} : fromRaw r = .ok m ↔
    match m with
    | .cr c => r.typ = CREATE ∧ createFromRaw r = .ok c
    | .ms x => r.typ = MEASURE ∧ measureFromRaw r = .ok x
    | .rdy id => r.typ = READY ∧ readyFromRaw r = .ok id
    | .other r' => r.typ ≠ CREATE ∧ r.typ ≠ MEASURE ∧ r.typ ≠ READY ∧ r = r' := by
  unfold fromRaw
  split
  · cases createFromRaw r <;> cases m <;> simp_all [CREATE, MEASURE, READY]
  · split
    · cases measureFromRaw r <;> cases m <;> simp_all [CREATE, MEASURE, READY]
    · split
      · cases readyFromRaw r <;> cases m <;> simp_all [CREATE, MEASURE, READY]
      · cases m <;> simp_all

/-- none of the three closed forms has a `.panic` branch -/
theorem fromRaw_no_panic (m : Raw) : fromRaw m ≠ .panic := by
  unfold fromRaw
  split
  · rename_i h
    rw [createFromRaw_eq m h]
    repeat' split
    all_goals nofun
  · split
    · rename_i h
      rw [measureFromRaw_eq m h]
      repeat' split
      all_goals nofun
    · split
      · rename_i h
        rw [readyFromRaw_eq m h]
        split <;> nofun
      · nofun

theorem fromBuf_eq (buf : Bytes) :
    fromBuf buf = match deserialize buf with
      | .panic => .panic
      | .err => .ok (.other ⟨255, 0, 0, buf⟩, buf.length)
      | .ok r => (fromRaw r >>= fun m => pure (m, r.len)) := rfl

theorem fromBuf_ok {buf : Bytes} {m : Msg} {n : Nat} (h : fromBuf buf = .ok (m, n)) :
    (m = .other ⟨255, 0, 0, buf⟩ ∧ n = buf.length) ∨
    ∃ r, fromRaw r = .ok m ∧ r.typ = rd16 buf ∧ n = rd16 (buf.drop 2) ∧ r.len = n ∧ 8 ≤ n ∧ n ≤ buf.length ∧
      r.sid = rd32 (buf.drop 4) ∧ r.bytes = (buf.drop 8).take (n - 8) ∧ r.bytes.length = n - 8 := by
  rw [fromBuf_eq] at h
  split at h
  · cases h
  · cases h; exact .inl ⟨rfl, rfl⟩
  · rename_i r hr
    obtain ⟨_, ht, _, hl, h8, hle, hs, hb⟩ := deserialize_ok hr
    have hbl : r.bytes.length = r.len - 8 := by
      rw [hb, List.length_take, List.length_drop, Nat.min_eq_left (Nat.sub_le_sub_right hle 8)]
    cases hx : fromRaw r <;> simp only [hx, Out.bind_ok, Out.bind_err, Out.bind_panic, Out.pure_eq,
      Out.ok.injEq, Prod.mk.injEq, reduceCtorEq] at h
    obtain ⟨rfl, rfl⟩ := h
    exact .inr ⟨r, hx, ht, hl, rfl, h8, hle, hs, hb, hbl⟩

theorem fromBuf_no_panic (buf : Bytes) : fromBuf buf ≠ .panic := by
  rw [fromBuf_eq]
  split
  · exact absurd ‹_› (deserialize_no_panic buf)
  · nofun
  · exact Out.bind_no_panic _ _ (fromRaw_no_panic _) fun _ _ => nofun

end Portus.Wire
