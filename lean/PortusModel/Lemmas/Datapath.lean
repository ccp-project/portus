import PortusModel.Vm.Datapath
/-!
# libccp's datapath object (`Vm/Datapath.lean`): `ccp_read_msg` and `ccp_invoke`, each stated once

* `readMsg_of_libccp`: whenever the independent reader `Libccp.readMsg` takes a buffer apart into a message,
  `ccp_read_msg` does to the datapath what that message says (`act`). The zero padding the C driver puts behind the
  buffer is invisible because `bAt` is 0 beyond the end.
* `invoke_eq`: `ccp_invoke` is load `Cwnd`/`Rate`, switch to a staged program (`switched`), apply and clear the pending
  updates (`applyPending`), run the state machine from the observation `preObs` of the pending updates. The words of
  this equation carry the namespaces of the property files that state results in them: `C06.loadPrims`,
  `C06.applyPending`, `C06.preObs`, `C06.overlayCtl`/`overlayImpl`, `C01.withImpl`.
* `Keep`: what no register write, so no run of the state machine, touches; `switched_frame` for the program switch.
-/
namespace Portus

theorem bAt_pad (b : Bytes) (k i : Nat) : bAt (b ++ zeros k) i = bAt b i := by
  unfold bAt zeros
  rw [List.getD_eq_getElem?_getD, List.getD_eq_getElem?_getD]
  rcases Nat.lt_or_ge i b.length with h | h
  · rw [List.getElem?_append_left h]
  · rw [List.getElem?_append_right h, List.getElem?_eq_none h, List.getElem?_replicate]
    split <;> rfl

theorem drop_pad (b : Bytes) (k j : Nat) : (b ++ zeros k).drop j = b.drop j ++ zeros (k - (j - b.length)) := by
  rw [List.drop_append, zeros, List.drop_replicate]
  rfl

theorem rd16_pad (b : Bytes) (k : Nat) : rd16 (b ++ zeros k) = rd16 b := by
  simp only [rd16, bAt_pad]

theorem rd32_pad (b : Bytes) (k : Nat) : rd32 (b ++ zeros k) = rd32 b := by
  simp only [rd32, bAt_pad]

theorem rd64_pad (b : Bytes) (k : Nat) : rd64 (b ++ zeros k) = rd64 b := by
  simp only [rd64, drop_pad, rd32_pad]

theorem readUpds_pad : ∀ (n : Nat) (b : Bytes) (k : Nat),
    Libccp.readUpds n (b ++ zeros k) = Libccp.readUpds n b
  | 0, _, _ => rfl
  | n + 1, b, k => by simp only [Libccp.readUpds, drop_pad, rd32_pad, rd64_pad, bAt_pad, readUpds_pad n]

theorem readExprs_pad : ∀ (n : Nat) (b : Bytes) (k : Nat),
    Libccp.readExprs n (b ++ zeros k) = Libccp.readExprs n b
  | 0, _, _ => rfl
  | n + 1, b, k => by simp only [Libccp.readExprs, drop_pad, rd32_pad, readExprs_pad n]

theorem readInstrs_pad : ∀ (n : Nat) (b : Bytes) (k : Nat),
    Libccp.readInstrs n (b ++ zeros k) = Libccp.readInstrs n b
  | 0, _, _ => rfl
  | n + 1, b, k => by simp only [Libccp.readInstrs, drop_pad, rd32_pad, bAt_pad, readInstrs_pad n]

end Portus

namespace Portus.Vm
open Portus

theorem getConn_setConn (dp : Dp) (sid : Nat) (c c' : Conn) (h : getConn dp sid = some c) :
    getConn (setConn dp sid c') sid = some c' := by
  unfold getConn setConn at *
  simp only at h ⊢
  split at h
  · cases h
  · rename_i hs
    rw [if_neg hs]
    have hlt : sid % 65536 - 1 < dp.conns.length := Nat.lt_of_not_le fun h' => by
      rw [List.getD_eq_getElem?_getD, List.getElem?_eq_none h'] at h; cases h
    rw [List.getD_eq_getElem?_getD, List.getElem?_set_self hlt]
    rfl

theorem findFree_spec : ∀ (ps : List (Nat × Program)) (o k : Nat), findFree ps o = some k →
    ∃ j, k = o + j ∧ ∃ h : j < ps.length, (ps[j]).1 = 0
  | [], _, _, h => by simp [findFree] at h
  | (idx, p) :: rest, o, k, h => by
    unfold findFree at h
    split at h
    · rename_i h0
      injection h with h
      exact ⟨0, by omega, by simp, by simpa using h0⟩
    · obtain ⟨j, hj, hl, hz⟩ := findFree_spec rest (o + 1) k h
      exact ⟨j + 1, by omega, by simpa using hl, by simpa using hz⟩

/-- a hit written anywhere into a list without one is the first hit -/
theorem find?_set_of_none {α : Type} (p : α → Bool) {x : α} (hx : p x = true) (l : List α) (k : Nat)
    (hk : k < l.length) (h : l.find? p = none) : (l.set k x).find? p = some x := by
  rw [List.set_eq_take_append_cons_drop, if_pos hk, List.find?_append, List.find?_cons_of_pos hx,
    List.find?_eq_none.mpr fun a ha => List.find?_eq_none.mp h a (List.mem_of_mem_take ha)]
  rfl

/-- a miss written over a miss changes no search -/
theorem find?_set_irrelevant {α : Type} (p : α → Bool) (l : List α) (k : Nat) (x : α) (hk : k < l.length)
    (h1 : p l[k] = false) (h2 : p x = false) : (l.set k x).find? p = l.find? p := by
  conv => rhs; rw [← List.take_append_drop k l, List.drop_eq_getElem_cons hk]
  rw [List.set_eq_take_append_cons_drop, if_pos hk, List.find?_append, List.find?_append,
    List.find?_cons_of_neg (by rw [h2]; nofun), List.find?_cons_of_neg (by rw [h1]; nofun)]

theorem lookup_after_install (dp : Dp) (uid k : Nat) (prog : Program) (hu : prog.uid = uid)
    (hfree : findFree dp.programs 0 = some k)
    (hnu : lookupUid dp uid = none) (hni : lookupIndex dp (k + 1) = none) :
    lookupUid { dp with programs := dp.programs.set k (k + 1, prog) } uid = some (k + 1) ∧
    lookupIndex { dp with programs := dp.programs.set k (k + 1, prog) } (k + 1) = some prog := by
  unfold lookupUid lookupIndex at *
  simp only [Option.map_eq_none_iff] at hnu hni
  obtain ⟨j, hj, hl, _⟩ := findFree_spec _ _ _ hfree
  have hk : k < dp.programs.length := by omega
  simp only [find?_set_of_none _ (x := (k + 1, prog)) (by simp [hu]) _ k hk hnu,
    find?_set_of_none _ (x := (k + 1, prog)) (by simp) _ k hk hni, Option.map_some, and_self]

/-- the return code `ccp_read_msg` derives from `stage_multiple_updates` -/
def stageRc (r : Pending × Int) : Int := if r.2 < 0 then r.2 else 0

/-- the table `ccp_read_msg` installs into: an install with uid 1 clears all slots first -/
def preInstall (dp : Dp) (uid : Nat) : Dp :=
  if uid = 1 then { dp with programs := List.replicate 10 (0, emptyProgram) } else dp

/-- what `ccp_read_msg` does with a message once it is taken apart -/
def act (dp : Dp) : Libccp.CtlMsg → Dp × Int
  | .install _ uid es ms => installProgram (preInstall dp uid) uid es ms
  | .updateFields sid us =>
    match getConn dp sid with
    | none => (dp, -71)
    | some c =>
      (setConn dp sid { c with pending := (stageUpdates c.pending us).1 }, stageRc (stageUpdates c.pending us))
  | .changeProg sid uid us =>
    match getConn dp sid with
    | none => (dp, -71)
    | some c =>
      match lookupUid dp uid with
      | none => (dp, 8)
      | some idx =>
        (setConn dp sid { c with staged := some idx, pending := (stageUpdates Pending.none us).1 },
          stageRc (stageUpdates Pending.none us))

theorem readMsg_of_libccp (dp : Dp) (buf : Bytes) (msg : Libccp.CtlMsg) (h : Libccp.readMsg buf = some msg) :
    readMsg dp buf = act dp msg := by
  unfold Libccp.readMsg at h
  unfold readMsg
  simp only [drop_pad, rd16_pad, rd32_pad, bAt_pad, readUpds_pad, readExprs_pad, readInstrs_pad]
  -- `split at h` costs ten times as much here
  by_cases h8 : buf.length < 8
  · rw [if_pos h8] at h; cases h
  by_cases ht : rd16 buf ≠ 2 ∧ rd16 buf ≠ 3 ∧ rd16 buf ≠ 4
  · rw [if_neg h8, if_pos ht] at h; cases h
  by_cases hl : rd16 (buf.drop 2) > buf.length
  · rw [if_neg h8, if_neg ht, if_pos hl] at h; cases h
  by_cases hl' : rd16 (buf.drop 2) > Libccp.BIGGEST_MSG_SIZE
  · rw [if_neg h8, if_neg ht, if_neg hl, if_pos hl'] at h; cases h
  rw [if_neg h8, if_neg ht, if_neg hl, if_neg hl'] at h
  rw [if_neg ht, if_neg hl, if_neg (show ¬ rd16 (buf.drop 2) > 32678 from hl')]
  by_cases h2 : rd16 buf = 2
  · rw [if_pos h2] at h
    cases h
    rw [if_pos h2]
    rfl
  rw [if_neg h2] at h
  rw [if_neg h2]
  by_cases h3 : rd16 buf = 3
  · rw [if_pos h3] at h
    by_cases hn : Libccp.signedByteAsU32 (bAt (buf.drop 8) 0) > Libccp.MAX_MUTABLE_REG
    · rw [if_pos hn] at h; cases h
    rw [if_neg hn] at h
    cases h
    simp only [act, if_pos h3, if_neg (show ¬ _ > 222 from hn)]
    rfl
  · rw [if_neg h3] at h
    by_cases hn : rd32 ((buf.drop 8).drop 4) > Libccp.MAX_MUTABLE_REG
    · rw [if_pos hn] at h; cases h
    rw [if_neg hn] at h
    cases h
    simp only [act, if_neg h3, if_neg (show ¬ _ > 222 from hn)]
    rfl

/-- `check_update_fields_msg`: a count byte that, read as a signed `char`, exceeds `MAX_MUTABLE_REG` gives -52 -/
theorem readMsg_uf_too_many (dp : Dp) (buf : Bytes) (c : Conn) (ht : rd16 buf = 3)
    (hl : rd16 (buf.drop 2) ≤ buf.length) (hl' : rd16 (buf.drop 2) ≤ 32678)
    (hc : getConn dp (rd32 (buf.drop 4)) = some c)
    (hn : Libccp.signedByteAsU32 (bAt (buf.drop 8) 0) > 222) : readMsg dp buf = (dp, -52) := by
  unfold readMsg
  simp only [drop_pad, rd16_pad, rd32_pad, bAt_pad, ht, hc]
  rw [if_neg (by omega), if_neg (by omega), if_neg (by omega), if_neg (by omega), if_pos trivial, if_pos hn]

/-- no register write, hence no instruction, event or run of the state machine, touches the program index, the
pending updates, the staged program or the size of the control file -/
structure Keep (c c' : Conn) : Prop where
  pi : c'.programIndex = c.programIndex
  pend : c'.pending = c.pending
  st : c'.staged = c.staged
  ctl : c'.regs.control.length = c.regs.control.length

theorem Keep.refl (c : Conn) : Keep c c := ⟨rfl, rfl, rfl, rfl⟩

theorem Keep.trans {a b c : Conn} (h1 : Keep a b) (h2 : Keep b c) : Keep a c :=
  ⟨h2.pi.trans h1.pi, h2.pend.trans h1.pend, h2.st.trans h1.st, h2.ctl.trans h1.ctl⟩

/-- every branch of `writeReg` replaces `regs` (and `t0`) only, the control file by a `set` -/
theorem writeReg_keep (env : Env) (c : Conn) (v : Val) (r : VReg) : Keep c (writeReg env c v r) := by
  unfold writeReg
  split <;> (try split) <;> (try split) <;>
    first | exact ⟨rfl, rfl, rfl, rfl⟩ | exact ⟨rfl, rfl, rfl, List.length_set⟩

theorem resetState_keep (env : Env) (p : Program) (c : Conn) : Keep c (resetState env p c) :=
  List.foldlRecOn _ _ (Keep.refl c) fun c' h i _ => by
    split
    · exact h.trans (writeReg_keep env c' _ _)
    · exact h

theorem initRegisterState_keep (env : Env) (p : Program) (c : Conn) : Keep c (initRegisterState env p c) :=
  List.foldlRecOn _ _ (Keep.refl c) fun c' h i _ => by
    split
    · exact h.trans (writeReg_keep env c' _ _)
    · exact h

/-- an instruction leaves the state as it is or writes its result register -/
theorem execInstr_fst (env : Env) (c : Conn) (i : VInstr) :
    (execInstr env c i).1 = c ∨ ∃ v, (execInstr env c i).1 = writeReg env c v i.ret := by
  unfold execInstr
  simp only
  split <;> (try split) <;> first | exact .inl rfl | exact .inr ⟨_, rfl⟩

/-- what every write to a result register of `is` keeps, running `is` keeps (also up to a fault) -/
theorem execInstrs_inv (env : Env) (Q : Conn → Prop) : ∀ (is : List VInstr) (c : Conn), Q c →
    (∀ i ∈ is, ∀ c v, Q c → Q (writeReg env c v i.ret)) → Q (execInstrs env c is).1
  | [], _, h, _ => h
  | i :: is, c, h, step => by
    have h1 : Q (execInstr env c i).1 := by
      rcases execInstr_fst env c i with e | ⟨v, e⟩ <;> rw [e]
      · exact h
      · exact step i List.mem_cons_self c v h
    unfold execInstrs
    simp only
    split
    · exact h1
    · exact execInstrs_inv env Q is _ h1 fun j hj => step j (List.mem_cons_of_mem _ hj)

theorem execInstrs_keep (env : Env) (l : List VInstr) (c : Conn) : Keep c (execInstrs env c l).1 :=
  execInstrs_inv env (Keep c) l c (Keep.refl c) fun i _ c' v h => h.trans (writeReg_keep env c' v i.ret)

theorem execExpr_keep (env : Env) (p : Program) (c : Conn) (e : Libccp.Expr) : Keep c (execExpr env p c e).1 := by
  unfold execExpr
  simp only
  split
  · exact execInstrs_keep env _ c
  · split
    · exact (execInstrs_keep env _ c).trans (execInstrs_keep env _ _)
    · exact execInstrs_keep env _ c

theorem execExprs_keep (env : Env) (p : Program) : ∀ (l : List Libccp.Expr) (c : Conn), Keep c (execExprs env p c l).1
  | [], c => Keep.refl c
  | e :: l, c => by
    unfold execExprs
    simp only
    split
    · exact execExpr_keep env p c e
    · split
      · exact execExpr_keep env p c e
      · exact (execExpr_keep env p c e).trans (execExprs_keep env p l _)

theorem stateMachine_keep (env : Env) (p : Program) (c : Conn) (o : Vm.Obs) : Keep c (stateMachine env p c o).1 := by
  unfold stateMachine
  simp only
  have k0 : Keep c { c with regs := { c.regs with impl :=
      (((c.regs.impl.set 0 0).set 1 0).set 2 0).set 3 (env.now - c.t0) } } := ⟨rfl, rfl, rfl, rfl⟩
  split
  · exact k0.trans (execExprs_keep env p _ _)
  · split
    · exact (k0.trans (execExprs_keep env p _ _)).trans (resetState_keep env p _)
    · exact k0.trans (execExprs_keep env p _ _)

end Portus.Vm

namespace Portus.C01
open Portus Portus.Vm

def withImpl (c : Conn) (X : List Val) : Conn := { c with regs := { c.regs with impl := X } }

end Portus.C01

namespace Portus.C06
open Portus Portus.Vm

def overlayCtl (ctl : List Val) (pc : List (Option Val)) : List Val :=
  (ctl.zip pc).map fun p => match p.2 with | some v => v | none => p.1

/-- the implicit registers with `Cwnd` (4) / `Rate` (5) overwritten by a pending value -/
def overlayImpl (impl : List Val) (cwnd rate : Option Val) : List Val :=
  let impl := match cwnd with | some v => impl.set 4 v | none => impl
  match rate with | some v => impl.set 5 v | none => impl

/-- `ccp_invoke`'s first step: `Cwnd`/`Rate` loaded from the datapath's primitives (`snd_cwnd` through a `u32`) -/
def loadPrims (c : Conn) (prims : Prims) : Conn :=
  C01.withImpl c ((c.regs.impl.set 4 (prims.sndCwnd.toUInt32.toUInt64)).set 5 prims.sndRate)

def applyPending (c : Conn) : Conn :=
  { c with regs := { c.regs with control := overlayCtl c.regs.control c.pending.control,
                                 impl := overlayImpl c.regs.impl c.pending.cwnd c.pending.rate },
           pending := Pending.none }

/-- the observation the state machine starts from: `set_cwnd` / `set_rate_abs` are called for a pending
non-zero `Cwnd` / `Rate` -/
def preObs (p : Pending) : Vm.Obs :=
  { rc := 0,
    setCwnd := match p.cwnd with | some v => if v != 0 then some v else none | none => none,
    setRate := match p.rate with | some v => if v != 0 then some v else none | none => none,
    report := none }

theorem applyPending_pending (c : Conn) : (applyPending c).pending = Pending.none := rfl

theorem overlayCtl_none (l : List Val) (n : Nat) (h : l.length ≤ n) : overlayCtl l (List.replicate n none) = l := by
  unfold overlayCtl
  rw [List.map_congr_left (g := Prod.fst) fun p hp => by rw [List.eq_of_mem_replicate (List.of_mem_zip hp).2],
    List.map_fst_zip (by rw [List.length_replicate]; exact h)]

theorem applyPending_none (c : Conn) (hpend : c.pending = Pending.none) (hctl : c.regs.control.length ≤ 110) :
    applyPending c = c ∧ preObs c.pending = { rc := 0, setCwnd := none, setRate := none, report := none } := by
  obtain ⟨regs, t0, pi, st, pend⟩ := c
  simp only at hpend hctl
  subst hpend
  refine ⟨?_, rfl⟩
  simp only [applyPending, overlayImpl, Pending.none, overlayCtl_none regs.control 110 hctl]

end Portus.C06

namespace Portus.Vm
open Portus Portus.C06

/-- the program switch of `ccp_invoke` -/
def switched (dp : Dp) (env : Env) (now : Val) (c : Conn) : Conn :=
  match c.staged with
  | some idx =>
    let c := { c with programIndex := idx, staged := none }
    match lookupIndex dp idx with
    | some p =>
      let c := initRegisterState env p (resetState env p c)
      { c with t0 := now, regs := { c.regs with impl := c.regs.impl.set 3 0 } }
    | none => { c with t0 := now, regs := { c.regs with impl := c.regs.impl.set 3 0 } }
  | none => c

theorem switched_none {dp : Dp} {env : Env} {now : Val} {c : Conn} (h : c.staged = none) :
    switched dp env now c = c := by
  unfold switched
  rw [h]

theorem switched_frame (dp : Dp) (env : Env) (now : Val) (c : Conn) (idx : Nat) (p : Program)
    (hst : c.staged = some idx) (hp : lookupIndex dp idx = some p) :
    (switched dp env now c).pending = c.pending ∧ (switched dp env now c).programIndex = idx ∧
    (switched dp env now c).staged = none ∧
    (switched dp env now c).regs.control.length = c.regs.control.length := by
  unfold switched
  rw [hst]
  simp only [hp]
  have f := (resetState_keep env p { c with programIndex := idx, staged := none }).trans (initRegisterState_keep env p _)
  exact ⟨f.pend, f.pi, f.st, f.ctl⟩

/-- a copy of the tail of `Vm.invoke` (pending updates, then the state machine; `invoke` has no name for it), so that
`invoke` is `invokeRest` of the switched state by `rfl`; if `invoke` changes, `invoke_eq` fails at that `rfl` -/
private def invokeRest (dp : Dp) (sid : Nat) (env : Env) (c : Conn) : Option (Dp × Vm.Obs) :=
  let ctl := (c.regs.control.zip c.pending.control).map fun p => match p.2 with | some v => v | none => p.1
  let c := { c with regs := { c.regs with control := ctl } }
  let o : Vm.Obs := { rc := 0, setCwnd := none, setRate := none, report := none }
  let (c, o) := match c.pending.cwnd with
    | some v => ({ c with regs := { c.regs with impl := c.regs.impl.set 4 v } },
                 { o with setCwnd := if v != 0 then some v else none })
    | none => (c, o)
  let (c, o) := match c.pending.rate with
    | some v => ({ c with regs := { c.regs with impl := c.regs.impl.set 5 v } },
                 { o with setRate := if v != 0 then some v else o.setRate })
    | none => (c, o)
  let c := { c with pending := Pending.none }
  match lookupIndex dp c.programIndex with
  | none => some (setConn dp sid c, { o with rc := -96 })
  | some p =>
    let r := stateMachine env p c o
    some (setConn dp sid r.1, r.2)

theorem invoke_eq (dp : Dp) (sid : Nat) (now : Val) (prims : Prims) (c : Conn) (hc : getConn dp sid = some c) :
    invoke dp sid now prims =
      match lookupIndex dp (switched dp ⟨now, 0, prims⟩ now (loadPrims c prims)).programIndex with
      | none => some (setConn dp sid (applyPending (switched dp ⟨now, 0, prims⟩ now (loadPrims c prims))),
          { preObs (switched dp ⟨now, 0, prims⟩ now (loadPrims c prims)).pending with rc := -96 })
      | some p =>
        some (setConn dp sid (stateMachine ⟨now, 0, prims⟩ p
            (applyPending (switched dp ⟨now, 0, prims⟩ now (loadPrims c prims)))
            (preObs (switched dp ⟨now, 0, prims⟩ now (loadPrims c prims)).pending)).1,
          (stateMachine ⟨now, 0, prims⟩ p
            (applyPending (switched dp ⟨now, 0, prims⟩ now (loadPrims c prims)))
            (preObs (switched dp ⟨now, 0, prims⟩ now (loadPrims c prims)).pending)).2) := by
  have e : invoke dp sid now prims = invokeRest dp sid ⟨now, 0, prims⟩
      (switched dp ⟨now, 0, prims⟩ now (loadPrims c prims)) := by
    unfold invoke
    rw [hc]
    rfl
  rw [e]
  generalize switched dp ⟨now, 0, prims⟩ now (loadPrims c prims) = c1
  obtain ⟨regs, t0, pi, st, ⟨pc, cw, rt⟩⟩ := c1
  unfold invokeRest
  cases hl : lookupIndex dp pi <;> cases cw <;> cases rt <;>
    simp only [hl, applyPending, preObs, overlayCtl, overlayImpl] <;> rfl

end Portus.Vm
