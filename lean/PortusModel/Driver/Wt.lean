import PortusModel.Lemmas.AcceptProg
import PortusModel.Driver.Util
/-! `WT <srchex>`: the declarative well-typedness check of C20 (`Typing.WellTyped`, theorem `well_typed_accepted`) on a
source text: `WT 1` (well typed: the theorem says the compiler accepts it), `WT 0`, `WT noparse`, `WT notutf8` -/
namespace Portus.Driver
open Portus Portus.Lang

def wtCmd (args : List String) : String :=
  match args with
  | [src] =>
    match fromHex src with
    | none => "BADARG"
    | some b =>
      match utf8Decode b with
      | none => "WT notutf8"
      | some cps =>
        match Typing.wtSrc (cps.map Char.ofNat) with
        | none => "WT noparse"
        | some true => "WT 1"
        | some false => "WT 0"
  | _ => "BADARG"

end Portus.Driver
