import PortusModel.Lemmas.Backend
import PortusModel.Props.C07
/-!
# C08 — the receive path frames datagrams correctly and never mixes in stale bytes

`Ipc.run` is the model of calling `Backend::next` until it returns `None`; `Ipc.specRun` is the
specification: a function of the datagram script alone (it has no buffer and no cursors).
-/
namespace Portus.C08
open Portus Portus.Wire Portus.Ipc

/-- `C08.check rx observed`: the observed yield sequence is what the script denotes. -/
def check (rx : List Rx) (observed : Out (List (Msg × Addr))) : Bool :=
  observed == .ok (specRun rx)

/-- **No stale bytes.** Whatever the receive buffer contained beforehand (e.g. the remains of earlier, longer
datagrams), the yielded (message, sender) sequence is `specRun rx`. -/
theorem yields_function_of_datagrams (buf0 : Bytes) (h : buf0.length = 1024) (rx : List Rx) :
    run (rxFuel rx + 1) (Backend.new buf0) rx = .ok (specRun rx) :=
  run_eq_spec buf0 h rx _ (by omega)

theorem stale_bytes_irrelevant (buf1 buf2 : Bytes) (h1 : buf1.length = 1024) (h2 : buf2.length = 1024)
    (rx : List Rx) :
    run (rxFuel rx + 1) (Backend.new buf1) rx = run (rxFuel rx + 1) (Backend.new buf2) rx := by
  rw [yields_function_of_datagrams buf1 h1, yields_function_of_datagrams buf2 h2]

/-- From every reachable state: what is still to be yielded is determined by the unread part of the current
datagram (`buf[read_until..tot_read]`) and the rest of the script. -/
theorem yields_from_any_state (b : Backend) (hinv : Inv b) (rx : List Rx) :
    run (measure b rx) b rx = .ok (pendingSpec b rx) :=
  run_eq_pending _ b rx hinv (Nat.le_refl _)

theorem check_model (buf0 : Bytes) (h : buf0.length = 1024) (rx : List Rx) :
    check rx (run (rxFuel rx + 1) (Backend.new buf0) rx) = true := by
  simp [check, yields_function_of_datagrams buf0 h rx]

/-- A script of datagrams, each a non-empty concatenation of in-range messages that fits the buffer (1024 bytes:
`run.rs:507`, see `Ipc.specRun` in `Lemmas/Backend`). -/
def wfScript : List (Addr × List Msg) → Bool
  | [] => true
  | (_, ms) :: r =>
    ms.all C07.wfMsg && !ms.isEmpty && decide ((ms.flatMap C07.libccpBytes).length ≤ 1024) && wfScript r

def scriptRx (s : List (Addr × List Msg)) : List Rx :=
  s.map fun p => .dgram p.1 (p.2.flatMap C07.libccpBytes)

def scriptMsgs (s : List (Addr × List Msg)) : List (Msg × Addr) :=
  s.flatMap fun p => p.2.map (·, p.1)

theorem decodeSeq_wellformed (a : Addr) (ms : List Msg) (h : ms.all C07.wfMsg = true) (fuel : Nat)
    (hf : (ms.flatMap C07.libccpBytes).length < fuel) :
    decodeSeq fuel a (ms.flatMap C07.libccpBytes) = (ms.map (·, a), true) := by
  induction ms generalizing fuel with
  | nil =>
    cases fuel with
    | zero => simp at hf
    | succ k => simp [decodeSeq]
  | cons m ms ih =>
    simp only [List.all_cons, Bool.and_eq_true] at h
    obtain ⟨_, _, rfl, hb3, hb4⟩ := C07.decode_encode m h.1 (ms.flatMap C07.libccpBytes)
    cases fuel with
    | zero => simp at hf
    | succ k =>
      have hne : (C07.libccpBytes m ++ ms.flatMap C07.libccpBytes).isEmpty = false :=
        List.isEmpty_eq_false_iff.mpr (List.append_ne_nil_of_left_ne_nil (List.ne_nil_of_length_pos hb3) _)
      simp only [List.flatMap_cons, decodeSeq, hne, hb4, List.drop_left', Bool.false_eq_true, if_false]
      have hk : (ms.flatMap C07.libccpBytes).length < k := by
        simp only [List.flatMap_cons, List.length_append] at hf; omega
      rw [ih h.2 k hk]
      simp

theorem wfScript_cons {a : Addr} {ms : List Msg} {r : List (Addr × List Msg)} (h : wfScript ((a, ms) :: r) = true) :
    ms.all C07.wfMsg = true ∧ 0 < (ms.flatMap C07.libccpBytes).length ∧
      (ms.flatMap C07.libccpBytes).length ≤ 1024 ∧ wfScript r = true := by
  simp only [wfScript, Bool.and_eq_true, Bool.not_eq_true', decide_eq_true_eq] at h
  obtain ⟨⟨⟨h1, h2⟩, h3⟩, h4⟩ := h
  exact ⟨h1, Nat.lt_of_lt_of_le (List.length_pos_iff.mpr (List.isEmpty_eq_false_iff.mp h2))
    (C07.length_le_flatMap ms h1), h3, h4⟩

/-- **Framing.** For every sequence of datagrams that are each a concatenation of well-formed
messages, reception yields exactly those messages, in order, each attributed to the sender of the
datagram that carried it — with failed receives interleaved anywhere (`noise`). -/
theorem wellformed_datagrams_yield_messages (s : List (Addr × List Msg)) (h : wfScript s = true) :
    specRun (scriptRx s) = scriptMsgs s := by
  induction s with
  | nil => rfl
  | cons p r ih =>
    obtain ⟨a, ms⟩ := p
    obtain ⟨h1, hpos, h3, h4⟩ := wfScript_cons h
    have htake : (ms.flatMap C07.libccpBytes).take 1024 = ms.flatMap C07.libccpBytes :=
      List.take_of_length_le h3
    simp only [scriptRx, List.map_cons, specRun, htake]
    rw [if_neg (by omega), decodeSeq_wellformed a ms h1 _ (by omega)]
    simp only [if_true]
    have := ih h4
    simp only [scriptRx] at this
    rw [this]
    simp [scriptMsgs]

theorem next_no_panic (b : Backend) (hinv : Inv b) (rx : List Rx) : next b rx ≠ .panic := by
  obtain ⟨o, b', rx', hn, _⟩ := next_spec b hinv rx
  simp [hn]

/-- **Reception advances.** Every call that yields a message either moves the cursor strictly forward inside the
current datagram or consumes part of the script (a new read happened). -/
theorem reception_advances (b b' : Backend) (hinv : Inv b) (rx rx' : List Rx) (p : Msg × Addr)
    (h : next b rx = .ok (some p, b', rx')) :
    Inv b' ∧ ((rx' = rx ∧ b.readUntil < b'.readUntil ∧ b'.totRead = b.totRead) ∨
              rxFuel rx' < rxFuel rx) := by
  have hs := next_spec_of_eq hinv h
  exact ⟨hs.1, hs.2.2.2⟩

example : wfScript [(1, [.rdy 7]), (2, [.ms ⟨9, 3, 1, [42]⟩, .rdy 8])] = true := by decide

end Portus.C08
