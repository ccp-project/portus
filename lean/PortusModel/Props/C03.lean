import PortusModel.Lemmas.ImageInv
/-!
# C03 — shape of the compiled image

"Whenever compilation and serialization succeed, the image is 16 bytes per event followed by 16
bytes per instruction; the instructions begin with one initialisation per declared report/control
variable that has a literal initial value, and the event table tiles the remaining instructions
contiguously in source order, each event having a non-empty condition block whose last instruction
writes the event-flag register. Every instruction has a defined opcode, a result register of a
writable class, register indices inside the datapath's register files (8 temporaries, 6 locals,
16 report, 16 control, 6 implicit, 15 primitives), and reads a temporary only if an earlier
instruction of the same expression wrote it."

`bin_wf` is the statement on the IR (`Bin`), `check_model` the same on the raw image, read back with libccp's record
readers. The predicates and the record-level checks are defined in `Lemmas/ImageInv.lean` (`primOk`, `stmtCount`,
`blockCount` in `Lemmas/Pipeline.lean`), because the invariant lemmas are stated with them.
-/
namespace Portus.C03
open Portus Portus.Lang Portus.Wire

/-- well-formedness of a compiled program relative to its expected DEF preamble `defs` -/
structure WfBin (defs : List Instr) (bin : Bin) : Prop where
  defs_shape : ∀ d ∈ defs, IsDefI d
  /-- behind the preamble: one block per flag expression and per body statement, each self-contained
      w.r.t. temporaries -/
  split : ∃ rest, bin.instrs = defs ++ rest ∧ (∀ i ∈ rest, i.op ≠ .def) ∧
    ∃ blocks : List (List Instr), rest = blocks.flatten ∧ ∀ b ∈ blocks, ReadsOk b
  tiles : Tiles defs.length bin.events bin.instrs.length
  /-- the last instruction of the flag block writes the event-flag register -/
  event : ∀ e ∈ bin.events, 1 ≤ e.numFlag ∧
    ∃ i t, bin.instrs[e.bodyIdx - 1]? = some i ∧ i.res = .implicit 0 t
  instr : ∀ i ∈ bin.instrs, writable i.res = true ∧ i.left ≠ .none ∧ i.right ≠ .none ∧
    i.op ≠ .and ∧ i.op ≠ .or ∧ primOk i.left = true ∧ primOk i.right = true
  /-- the form of `split` that is visible in the image: per event, the flag block and the body block -/
  evblocks : ∀ e ∈ bin.events,
    ReadsOk ((bin.instrs.drop e.flagIdx).take e.numFlag) ∧
    ReadsOk ((bin.instrs.drop e.bodyIdx).take e.numBody)

/-- **C03 on the IR**; the expected preamble is computed from the scope after declarations and overrides -/
theorem bin_wf (uid : Nat) (src : List Char) (upd : List (Name × Nat)) (ds : List Decl)
    (evs : List Event) (sc0 : Scope) (bin : Bin) (sc : Scope)
    (hp : parseSource src = some (ds, evs))
    (hd : declareAll (Scope.new uid) ds = .ok sc0)
    (hc : compileProg evs (applyUpdates sc0 upd) = .ok (bin, sc)) :
    WfBin (defInstrs (applyUpdates sc0 upd).named) bin ∧ bin.events.length = evs.length := by
  have hs := start_scInv hp hd upd
  have hclean := compileProg_clean hs hc
  obtain ⟨blocks, hsplit, hb, -, hlen, htiles, hev⟩ := compileProg_shape hs hc
  have hok : ∀ i ∈ blocks.flatten, InstrOk i := List.forall_mem_flatten.mpr fun b hb' => (hb b hb').2
  have hdefs := defInstrs_isDef (applyUpdates sc0 upd).named
  refine ⟨⟨hdefs, ⟨_, hsplit, fun i hi => (hok i hi).1, blocks, rfl, fun b hb' => (hb b hb').1⟩, htiles,
    fun e he => ⟨(hev e he).1, (hev e he).2.1⟩, fun i hi => ?_, fun e he => (hev e he).2.2⟩, hlen⟩
  obtain ⟨c4, c5, c1, c2, c3⟩ := hclean i hi
  rw [hsplit, List.mem_append] at hi
  rcases hi with hi | hi
  · obtain ⟨_, d2, d3, d4⟩ := hdefs i hi
    have f := isRC_facts d3
    refine ⟨f.2.2, c2, c3, c4, c5, by rw [d2]; exact f.2.1, ?_⟩
    rcases d4 with ⟨n, d4⟩ | ⟨b, d4⟩ <;> rw [d4] <;> rfl
  · obtain ⟨_, o2, o3, o4⟩ := hok i hi
    exact ⟨o2.resolve_left c1, c2, c3, c4, c5, o3, o4⟩

/-- clause `split` of `WfBin` with the blocks counted -/
theorem bin_blocks (uid : Nat) (src : List Char) (upd : List (Name × Nat)) (ds : List Decl)
    (evs : List Event) (sc0 : Scope) (bin : Bin) (sc : Scope)
    (hp : parseSource src = some (ds, evs))
    (hd : declareAll (Scope.new uid) ds = .ok sc0)
    (hc : compileProg evs (applyUpdates sc0 upd) = .ok (bin, sc)) :
    ∃ blocks : List (List Instr),
      bin.instrs = defInstrs (applyUpdates sc0 upd).named ++ blocks.flatten ∧
      (∀ b ∈ blocks, ReadsOk b) ∧ blocks.length = blockCount evs := by
  have hs := start_scInv hp hd upd
  obtain ⟨blocks, hsplit, hb, hl, -⟩ := compileProg_shape hs hc
  exact ⟨blocks, hsplit, fun b hb' => (hb b hb').1, hl⟩

/-- the same, phrased on `lang::compile` -/
theorem compile_wf (uid : Nat) (src : List Char) (upd : List (Name × Nat)) (bin : Bin) (sc : Scope)
    (h : compile uid src upd = .ok (bin, sc)) :
    ∃ ds evs sc0, parseSource src = some (ds, evs) ∧ declareAll (Scope.new uid) ds = .ok sc0 ∧
      WfBin (defInstrs (applyUpdates sc0 upd).named) bin ∧ bin.events.length = evs.length := by
  obtain ⟨ds, evs, sc0, hp, hd, hc⟩ := compile_ok h
  exact ⟨ds, evs, sc0, hp, hd, bin_wf uid src upd ds evs sc0 bin sc hp hd hc⟩

structure Recs where
  exprs : List Libccp.Expr
  instrs : List Libccp.InstrMsg
deriving Repr, DecidableEq

/-- the image as libccp's record readers split it -/
def decodeImage (numEvents : Nat) (img : Bytes) : Option Recs :=
  if 16 * numEvents ≤ img.length ∧ (img.length - 16 * numEvents) % 16 = 0 then
    some ⟨Libccp.readExprs numEvents img,
          Libccp.readInstrs ((img.length - 16 * numEvents) / 16) (img.drop (16 * numEvents))⟩
  else none

/-- the records libccp will read for the DEF preamble `defs` -/
def expectedDefs (defs : List Instr) : List Libccp.InstrMsg := defs.filterMap instrMsg?

/-- the property on records. Temporaries are checked per condition block and per body block (`evOkB`): statement
boundaries inside a body are not in the image, so this is weaker than clause `split` of `WfBin` and is what clause
`evblocks` gives. The encoder itself would let primitive index 15 through (its test is `i > 15`); `< 15` in `regOkB`
holds because primitives only come from `Scope::new`, indices 0..14 (`ScInv`, `primOk`). -/
def wfRecs (expectedDefs : List Libccp.InstrMsg) (r : Recs) : Bool :=
  decide (r.instrs.take expectedDefs.length = expectedDefs) &&
  expectedDefs.all (fun m => m.opcode == 2) &&
  (r.instrs.drop expectedDefs.length).all (fun m => m.opcode != 2) &&
  tilesB expectedDefs.length r.exprs r.instrs.length &&
  r.exprs.all (evOkB r.instrs) &&
  r.instrs.all instrOkB

/-- the oracle of the test driver on the observed outcome -/
def check (expectedDefs : List Libccp.InstrMsg) (numEvents : Nat) (obs : Out Bytes) : Bool :=
  match obs with
  | .err => true
  | .panic => false
  | .ok img =>
    match decodeImage numEvents img with
    | some r => wfRecs expectedDefs r
    | none => false

/-- **Image layout.** The range hypothesis is there because the event fields are written as `u32`. -/
theorem decode_of_serialize (bin : Bin) (img : Bytes) (h : bin.serialize = .ok img)
    (hr : ∀ e ∈ bin.events, evInRange e) :
    img.length = 16 * bin.events.length + 16 * bin.instrs.length ∧
    ∃ ms, decodeImage bin.events.length img = some ⟨bin.events.map evToLibccp, ms⟩ ∧
      instrsMatch bin.instrs ms := by
  obtain ⟨ib, hib, rfl⟩ := Bin.serialize_ok h
  obtain ⟨hl, hm⟩ := readInstrs_serialize bin.instrs ib [] hib
  have he := events_bytes_length bin.events
  have hlen : (bin.events.flatMap EvRec.serialize ++ ib).length
      = 16 * bin.events.length + 16 * bin.instrs.length := by
    rw [List.length_append, he, hl]
  refine ⟨hlen, Libccp.readInstrs bin.instrs.length ib, ?_, by simpa using hm⟩
  unfold decodeImage
  rw [hlen]
  have c : 16 * bin.events.length ≤ 16 * bin.events.length + 16 * bin.instrs.length ∧
      (16 * bin.events.length + 16 * bin.instrs.length - 16 * bin.events.length) % 16 = 0 := by omega
  rw [if_pos c]
  have e1 : (16 * bin.events.length + 16 * bin.instrs.length - 16 * bin.events.length) / 16
      = bin.instrs.length := by omega
  rw [e1, readExprs_serialize bin.events ib hr, List.drop_left' he]

theorem wfRecs_of_wf {defs : List Instr} {bin : Bin} {ms : List Libccp.InstrMsg}
    (hw : WfBin defs bin) (hm : instrsMatch bin.instrs ms) :
    wfRecs (expectedDefs defs) ⟨bin.events.map evToLibccp, ms⟩ = true := by
  obtain ⟨rest, hsplit, hnodef, _⟩ := hw.split
  have hm' := hm
  rw [hsplit] at hm'
  obtain ⟨e1, e2, e3, e4⟩ := defs_records hm' (fun d hd => (hw.defs_shape d hd).1) hnodef
  have hlen := instrsMatch_length hm
  simp only [wfRecs, expectedDefs, Bool.and_eq_true, List.all_eq_true, beq_iff_eq, bne_iff_ne, ne_eq]
  refine ⟨⟨⟨⟨⟨decide_eq_true e2, e3⟩, e4⟩, ?_⟩, ?_⟩, ?_⟩
  · rw [e1, hlen]; exact tilesB_of hw.tiles
  · exact List.forall_mem_map.mpr fun e he =>
      evOkB_of hm ⟨(hw.event e he).1, (hw.event e he).2, (hw.evblocks e he).1, (hw.evblocks e he).2⟩
  · refine instrsMatch_forall hm _ ?_
    intro i hi m hmm
    obtain ⟨w, _, _, _, _, pl, pr⟩ := hw.instr i hi
    exact instrOkB_of hmm w pl pr

/-- **C03 on the image.** Side condition: fewer than `2^32` instructions (a 64 GiB image); the event-table fields are
`u32`, beyond that they wrap and the table does not tile. -/
theorem check_model (uid : Nat) (src : List Char) (upd : List (Name × Nat)) (ds : List Decl)
    (evs : List Event) (sc0 : Scope) (bin : Bin) (sc : Scope) (img : Bytes)
    (hp : parseSource src = some (ds, evs))
    (hd : declareAll (Scope.new uid) ds = .ok sc0)
    (hc : compileProg evs (applyUpdates sc0 upd) = .ok (bin, sc))
    (hs : bin.serialize = .ok img) (hlen : bin.instrs.length < 2^32) :
    img.length = 16 * evs.length + 16 * bin.instrs.length ∧
    check (expectedDefs (defInstrs (applyUpdates sc0 upd).named)) evs.length (.ok img) = true := by
  obtain ⟨hw, hn⟩ := bin_wf uid src upd ds evs sc0 bin sc hp hd hc
  obtain ⟨hl, ms, hdec, hm⟩ := decode_of_serialize bin img hs (Tiles_inRange hw.tiles hlen)
  rw [hn] at hl hdec
  refine ⟨hl, ?_⟩
  simp only [check, hdec]
  exact wfRecs_of_wf hw hm

/-- the same for every outcome of `compile_and_serialize` (errors are admissible, panics do not
occur by C10, images satisfy the oracle) -/
theorem check_model_cas (uid : Nat) (src : List Char) (upd : List (Name × Nat)) (img : Bytes) (sc : Scope)
    (h : compileAndSerialize uid src upd = .ok (img, sc)) :
    ∃ ds evs sc0 bin, parseSource src = some (ds, evs) ∧ declareAll (Scope.new uid) ds = .ok sc0 ∧
      compile uid src upd = .ok (bin, sc) ∧ bin.serialize = .ok img ∧
      (bin.instrs.length < 2^32 →
        img.length = 16 * evs.length + 16 * bin.instrs.length ∧
        check (expectedDefs (defInstrs (applyUpdates sc0 upd).named)) evs.length (.ok img) = true) := by
  obtain ⟨bin, hc, hs⟩ := compileAndSerialize_ok h
  obtain ⟨ds, evs, sc0, hp, hd, hc'⟩ := compile_ok hc
  exact ⟨ds, evs, sc0, bin, hp, hd, hc, hs,
    fun hlen => check_model uid src upd ds evs sc0 bin sc img hp hd hc' hs hlen⟩

/-! ## Non-vacuity and sensitivity

The `#guard`s are run by the compiler at build time: tests, not theorems. -/

/-- test helper: the pipeline of `check_model`, the image optionally tampered with -/
def checkSrc (src : String) (upd : List (Name × Nat)) (tamper : Bytes → Bytes := id) : Bool :=
  match parseSource src.toList with
  | none => false
  | some (ds, evs) =>
    match declareAll (Scope.new 1) ds with
    | .ok sc0 =>
      match compileProg evs (applyUpdates sc0 upd) with
      | .ok (bin, _) =>
        match bin.serialize with
        | .ok img => check (expectedDefs (defInstrs (applyUpdates sc0 upd).named)) evs.length (.ok (tamper img))
        | _ => false
      | _ => false
    | _ => false

def prog1 : String := "(def (Report (x 0))) (when true (:= Report.x (+ Report.x 1)) (report))"
def prog2 : String := "(def (Report (volatile acked 0) (rtt 0)) (cwndCap 100) (flag false))
(when true (:= Report.acked (+ Report.acked Ack.bytes_acked)) (:= Report.rtt Flow.rtt_sample_us) (fallthrough))
(when (> Micros 1000) (:= Cwnd (min cwndCap (* 2 (+ Cwnd 1)))) (:= Micros 0) (report))"

#guard (compileAndSerialize 1 prog1.toList []).isOk
-- the DEF record written out by hand: `Report.x <- Def Report.x 0` = opcode 2, (6,0), (6,0), (1,0)
#guard match compileAndSerialize 1 prog1.toList [] with
  | .ok (img, _) => img.length == 16 * 1 + 16 * 5 && check [⟨2, 6, 0, 6, 0, 1, 0⟩] 1 (.ok img)
  | _ => false
-- two events, volatile report, control variables, nested temporaries, an override
#guard checkSrc prog1 []
#guard checkSrc prog2 []
#guard checkSrc prog2 [("cwndCap".toList, 7)]
-- the corner case `(:= (+ 1 2) 3)`: a temporary is written twice
#guard checkSrc "(def (Report (x 0))) (when true (:= (+ 1 2) 3) (report))" []
-- sensitivity: wrong expected preamble, wrong event count, truncated image, single-byte corruptions
#guard match compileAndSerialize 1 prog1.toList [] with
  | .ok (img, _) => !check [] 1 (.ok img) && !check [⟨2, 6, 0, 6, 0, 1, 1⟩] 1 (.ok img) &&
                    !check [⟨2, 6, 0, 6, 0, 1, 0⟩] 2 (.ok img)
  | _ => false
#guard !checkSrc prog1 [] (fun b => b.dropLast)
#guard !checkSrc prog1 [] (fun b => b.take 80)
#guard !checkSrc prog1 [] (fun b => b.set 16 1)        -- DEF opcode
#guard !checkSrc prog1 [] (fun b => b.set (16 + 3*16 + 12) 1)   -- index of the temporary read by instr 3
#guard !checkSrc prog1 [] (fun b => b.set 4 2)         -- numCond
#guard !checkSrc prog1 [] (fun b => b.set (16 + 16 + 2) 1)      -- flag block writes implicit 1
#guard check [] 0 .err && !check [] 0 .panic

/-- `flag <- Bind flag true` as the only instruction of one event: accepted -/
example : wfRecs [] ⟨[⟨0, 1, 1, 0⟩], [⟨1, 2, 0, 2, 0, 1, 1⟩]⟩ = true := by decide
/-- a temporary read without an earlier write in the block: rejected -/
example : wfRecs [] ⟨[⟨0, 1, 1, 0⟩], [⟨1, 2, 0, 7, 0, 1, 1⟩]⟩ = false := by decide
/-- write then read of the same temporary: accepted; of another temporary: rejected -/
example : wfRecs [] ⟨[⟨0, 2, 2, 0⟩], [⟨8, 7, 0, 2, 3, 1, 5⟩, ⟨1, 2, 0, 2, 0, 7, 0⟩]⟩ = true := by decide
example : wfRecs [] ⟨[⟨0, 2, 2, 0⟩], [⟨8, 7, 0, 2, 3, 1, 5⟩, ⟨1, 2, 0, 2, 0, 7, 1⟩]⟩ = false := by decide
/-- primitive index 15 (accepted by the encoder, outside the 15 primitives): rejected -/
example : wfRecs [] ⟨[⟨0, 1, 1, 0⟩], [⟨1, 2, 0, 2, 0, 4, 15⟩]⟩ = false := by decide
/-- an event table that leaves a gap: rejected -/
example : wfRecs [] ⟨[⟨1, 1, 2, 0⟩], [⟨1, 2, 0, 2, 0, 1, 1⟩, ⟨1, 2, 0, 2, 0, 1, 1⟩]⟩ = false := by decide
/-- a result of a non-writable class (primitive): rejected -/
example : wfRecs [] ⟨[⟨0, 2, 2, 0⟩], [⟨1, 4, 0, 2, 0, 1, 1⟩, ⟨1, 2, 0, 2, 0, 1, 1⟩]⟩ = false := by decide

end Portus.C03
