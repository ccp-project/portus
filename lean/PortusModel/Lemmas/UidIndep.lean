import PortusModel.Lemmas.Pipeline
/-! The compiler never reads the program uid: it is carried along untouched (C20 determinism, C17). -/
namespace Portus.Lang
open Portus

def Scope.withUid (sc : Scope) (u : Nat) : Scope := { sc with uid := u }

@[simp] theorem withUid_named (sc : Scope) (u : Nat) : (sc.withUid u).named = sc.named := rfl
@[simp] theorem withUid_tmp (sc : Scope) (u : Nat) : (sc.withUid u).tmp = sc.tmp := rfl
@[simp] theorem withUid_numLocal (sc : Scope) (u : Nat) : (sc.withUid u).numLocal = sc.numLocal := rfl
@[simp] theorem withUid_get (sc : Scope) (u : Nat) (n : Name) : (sc.withUid u).get n = sc.get n := rfl
@[simp] theorem withUid_uid (sc : Scope) (u : Nat) : (sc.withUid u).uid = u := rfl
@[simp] theorem withUid_withUid (sc : Scope) (u v : Nat) : (sc.withUid u).withUid v = sc.withUid v := rfl

def CE.withUid (c : CE) (u : Nat) : CE := { c with sc := c.sc.withUid u }
def CP.withUid (c : CP) (u : Nat) : CP := { c with sc := c.sc.withUid u }

def mapOut {α β : Type} (f : α → β) : Out α → Out β
  | .ok a => .ok (f a)
  | .err => .err
  | .panic => .panic

/-! `mapOut` against `>>=` and `if`: with these, "`f` commutes with `withUid`" passes through every `do` block by
rewriting, and each function of the pipeline needs only the facts about the functions it calls. -/

theorem bind_mapOut {α β γ : Type} (f : α → β) (x : Out α) (g : β → Out γ) :
    mapOut f x >>= g = x >>= fun a => g (f a) := by cases x <;> rfl

theorem mapOut_bind {α β γ : Type} (f : β → γ) (x : Out α) (g : α → Out β) :
    mapOut f (x >>= g) = x >>= fun a => mapOut f (g a) := by cases x <;> rfl

theorem mapOut_ite {α β : Type} (f : α → β) (c : Prop) [Decidable c] (x y : Out α) :
    mapOut f (if c then x else y) = if c then mapOut f x else mapOut f y := apply_ite _ _ _ _

theorem Out.bind_assoc {α β γ : Type} (x : Out α) (g : α → Out β) (h : β → Out γ) :
    x >>= g >>= h = x >>= fun a => g a >>= h := by cases x <;> rfl

theorem newLocal_withUid (sc : Scope) (u : Nat) (n : Name) (t : Ty) :
    (sc.withUid u).newLocal n t = mapOut (fun p => (p.1, p.2.withUid u)) (sc.newLocal n t) := by
  unfold Scope.newLocal
  rw [mapOut_bind]
  rfl

theorem updateType_withUid (sc : Scope) (u : Nat) (n : Name) (t : Ty) :
    (sc.withUid u).updateType n t = mapOut (fun p => (p.1, p.2.withUid u)) (sc.updateType n t) := by
  unfold Scope.updateType
  rw [withUid_named]
  split <;> rfl

theorem newReport_withUid (sc : Scope) (u : Nat) (v : Bool) (n : Name) (t : Ty) :
    (sc.withUid u).newReport v n t = mapOut (·.withUid u) (sc.newReport v n t) := by
  unfold Scope.newReport
  rw [mapOut_bind]
  rfl

theorem newControl_withUid (sc : Scope) (u : Nat) (v : Bool) (n : Name) (t : Ty) :
    (sc.withUid u).newControl v n t = mapOut (·.withUid u) (sc.newControl v n t) := by
  unfold Scope.newControl
  rw [mapOut_bind]
  rfl

theorem compileAtom_withUid (p : Prim) (sc : Scope) (u : Nat) :
    compileAtom p (sc.withUid u) = mapOut (·.withUid u) (compileAtom p sc) := by
  cases p with
  | bool b => rfl
  | num n => rfl
  | name n =>
    simp only [compileAtom, withUid_get, withUid_numLocal, newLocal_withUid, bind_mapOut]
    split
    · rfl
    · split
      · rfl
      · rw [mapOut_bind]
        rfl

theorem bindTarget_withUid (l r : Reg) (sc : Scope) (u : Nat) :
    bindTarget l r (sc.withUid u) = mapOut (fun p => (p.1, p.2.withUid u)) (bindTarget l r sc) := by
  unfold bindTarget
  split
  · split
    · rfl
    · exact updateType_withUid sc u _ _
  · rfl

theorem bindEmit_withUid (is : List Instr) (l r : Reg) (sc : Scope) (u : Nat) :
    bindEmit is l r (sc.withUid u) = mapOut (·.withUid u) (bindEmit is l r sc) := by
  unfold bindEmit
  -- no arm looks at the uid
  repeat' split
  all_goals rfl

theorem combineBind_withUid (is : List Instr) (l r : Reg) (sc : Scope) (u : Nat) :
    combineBind is l r (sc.withUid u) = mapOut (·.withUid u) (combineBind is l r sc) := by
  unfold combineBind
  rw [bindTarget_withUid]
  cases bindTarget l r sc with
  | ok p => exact bindEmit_withUid is p.1 r p.2 u
  | err => rfl
  | panic => rfl

theorem combine_withUid (o : Op) (is : List Instr) (l r : Reg) (sc : Scope) (u : Nat) :
    combine o is l r (sc.withUid u) = mapOut (·.withUid u) (combine o is l r sc) := by
  rw [combine_eq, combine_eq]
  cases o.kind with
  | bind => exact combineBind_withUid is l r sc u
  | _ => simp only [mapOut_ite]; rfl

theorem compileExpr_withUid (e : Expr) (sc : Scope) (u : Nat) :
    compileExpr e (sc.withUid u) = mapOut (·.withUid u) (compileExpr e sc) := by
  induction e generalizing sc with
  | atom p => simp only [compileExpr]; exact compileAtom_withUid p sc u
  | cmd c => rfl
  | none => rfl
  | sexp o le re ihl ihr =>
    simp only [compileExpr, ihl, bind_mapOut, CE.withUid, ihr, mapOut_bind, combine_withUid]

theorem clearTmps_withUid (sc : Scope) (u : Nat) : (sc.withUid u).clearTmps = sc.clearTmps.withUid u := rfl

theorem compileFlag_withUid (flag : Expr) (sc : Scope) (u : Nat) :
    compileFlag flag (sc.withUid u) = mapOut (fun p => (p.1, p.2.withUid u)) (compileFlag flag sc) := by
  simp only [compileFlag, clearTmps_withUid, compileExpr_withUid, bind_mapOut, CE.withUid, withUid_get, mapOut_bind]
  refine congrArg _ (funext fun c => congrArg _ (funext fun fr => ?_))
  split
  · split <;> rfl
  · rfl
  · rfl

theorem compileBody_withUid (body : List Expr) (sc : Scope) (u : Nat) :
    compileBody body (sc.withUid u) = mapOut (fun p => (p.1, p.2.withUid u)) (compileBody body sc) := by
  induction body generalizing sc with
  | nil => rfl
  | cons e rest ih =>
    simp only [compileBody, clearTmps_withUid, compileExpr_withUid, bind_mapOut, CE.withUid, ih, mapOut_bind,
      mapOut_ite]
    rfl

theorem compileEvents_withUid (evs : List Event) (idx : Nat) (sc : Scope) (u : Nat) :
    compileEvents evs idx (sc.withUid u) = mapOut (·.withUid u) (compileEvents evs idx sc) := by
  induction evs generalizing idx sc with
  | nil => rfl
  | cons ev rest ih =>
    simp only [compileEvents, compileFlag_withUid, compileBody_withUid, bind_mapOut, ih, mapOut_bind]
    rfl

theorem compileProg_withUid (evs : List Event) (sc : Scope) (u : Nat) :
    compileProg evs (sc.withUid u) = mapOut (fun p => (p.1, p.2.withUid u)) (compileProg evs sc) := by
  simp only [compileProg, withUid_named, compileEvents_withUid, bind_mapOut, mapOut_bind]
  rfl

theorem applyUpdates_withUid (sc : Scope) (u : Nat) (upd : List (Name × Nat)) :
    applyUpdates (sc.withUid u) upd = (applyUpdates sc upd).withUid u := by
  induction upd generalizing sc with
  | nil => rfl
  | cons p rest ih =>
    simp only [applyUpdates, updateType_withUid]
    cases sc.updateType p.1 (.num (some p.2)) with
    | ok q => exact ih q.2
    | err => exact ih sc
    | panic => exact ih sc

theorem foldlM_withUid {δ : Type} {step : Scope → δ → Out Scope}
    (h : ∀ sc u d, step (sc.withUid u) d = mapOut (·.withUid u) (step sc d)) (ds : List δ) (sc : Scope) (u : Nat) :
    ds.foldlM step (sc.withUid u) = mapOut (·.withUid u) (ds.foldlM step sc) := by
  induction ds generalizing sc with
  | nil => rfl
  | cons d rest ih => simp only [List.foldlM_cons, h, bind_mapOut, ih, mapOut_bind]

theorem declareAll_withUid (sc : Scope) (u : Nat) (ds : List Decl) :
    declareAll (sc.withUid u) ds = mapOut (·.withUid u) (declareAll sc ds) := by
  unfold declareAll
  simp only
  split
  · rfl
  · rw [foldlM_withUid (fun sc u d => newReport_withUid sc u _ _ _), bind_mapOut, mapOut_bind]
    exact congrArg _ (funext fun s => foldlM_withUid (fun sc u d => newControl_withUid sc u _ _ _) _ s u)

theorem Scope_new_withUid (u v : Nat) : (Scope.new u).withUid v = Scope.new v := by
  simp only [Scope.new, Scope.withUid]

/-- compiling the same source under two uids gives the same instructions and event table, and scopes that differ
in nothing but the uid -/
theorem compile_uid_indep (u v : Nat) (src : List Char) (upd : List (Name × Nat)) :
    compile v src upd = mapOut (fun p => (p.1, p.2.withUid v)) (compile u src upd) := by
  unfold compile newWithScope
  cases parseSource src with
  | none => rfl
  | some p =>
    simp only [← Scope_new_withUid u v, declareAll_withUid, bind_mapOut, Out.pure_eq, Out.bind_ok, Out.bind_assoc,
      applyUpdates_withUid, compileProg_withUid, mapOut_bind]

end Portus.Lang
