import PortusModel.Lang.Fragment
/-!
# The register files of the libccp machine as one indexed family

`Vm.readReg` / `Vm.writeReg` match on the class number of a register. Here a register has a *cell*
`(file, index)` — or none: immediates, primitives, unknown classes — and each of the two functions is rewritten once
in terms of `Regs.file` / `Regs.upd`. What is proved about reads after writes, frames and well-formedness is then
list reasoning about `getD` / `set`, with no class in sight.
-/
namespace Portus.Lang.Frag
open Portus Portus.Lang Portus.Vm

theorem getD_set_eq (l : List Val) (i j : Nat) (v : Val) :
    (l.set i v).getD j 0 = if i = j ∧ i < l.length then v else l.getD j 0 := by
  simp only [List.getD_eq_getElem?_getD, List.getElem?_set]
  by_cases h : i = j
  · subst h
    by_cases hl : i < l.length <;> simp [hl]
  · simp [h]

/-- the five arrays of `struct ccp_priv_state` that registers live in -/
inductive File | control | impl | loc | report | tmp
deriving DecidableEq

/-- the number `fileOf` gives the classes of the file -/
def File.code : File → Nat
  | .control => 0 | .impl => 2 | .loc => 3 | .report => 5 | .tmp => 7

/-- libccp's array sizes: a write at or beyond them is dropped -/
def File.cap : File → Nat
  | .control => 110 | .impl => 6 | .loc => 8 | .report => 110 | .tmp => 8

def _root_.Portus.Vm.Regs.file (R : Regs) : File → List Val
  | .control => R.control | .impl => R.impl | .loc => R.loc | .report => R.report | .tmp => R.tmp

def _root_.Portus.Vm.Regs.upd (R : Regs) (f : File) (l : List Val) : Regs :=
  match f with
  | .control => { R with control := l } | .impl => { R with impl := l } | .loc => { R with loc := l }
  | .report => { R with report := l } | .tmp => { R with tmp := l }

theorem _root_.Portus.Vm.Regs.file_upd (R : Regs) (f g : File) (l : List Val) :
    (R.upd f l).file g = if g = f then l else R.file g := by
  cases f <;> cases g <;> rfl

def cell (r : VReg) : Option (File × Nat) :=
  match r.cls with
  | 5 | 6 => some (.report, r.idx)
  | 0 | 8 => some (.control, r.idx)
  | 7 => some (.tmp, r.idx)
  | 3 => some (.loc, r.idx)
  | 2 => some (.impl, r.idx)
  | _ => none

theorem cell_spec {r : VReg} {f : File} {i : Nat} (h : cell r = some (f, i)) :
    fileOf r.cls = f.code ∧ r.idx = i := by
  obtain ⟨a, j⟩ := r
  simp only [cell] at h
  split at h <;> cases h <;> exact ⟨rfl, rfl⟩

/-- the classes `reset_state` / `init_register_state` select: report and control registers -/
theorem cell_rc {r : VReg} (h : r.cls = 0 ∨ r.cls = 5 ∨ r.cls = 6 ∨ r.cls = 8) :
    ∃ f, (f = .control ∨ f = .report) ∧ cell r = some (f, r.idx) := by
  obtain ⟨a, i⟩ := r
  rcases h with h | h | h | h <;> cases h
  · exact ⟨_, .inl rfl, rfl⟩
  · exact ⟨_, .inr rfl, rfl⟩
  · exact ⟨_, .inr rfl, rfl⟩
  · exact ⟨_, .inl rfl, rfl⟩

theorem sameCell_symm {a b : VReg} (h : sameCell a b) : sameCell b a := ⟨h.1.symm, h.2.symm⟩

theorem sameCell_of_cell {r r' : VReg} {p : File × Nat} (h : cell r = some p) (h' : cell r' = some p) :
    sameCell r r' := by
  obtain ⟨a1, a2⟩ := cell_spec h
  obtain ⟨b1, b2⟩ := cell_spec h'
  exact ⟨a1.trans b1.symm, a2.trans b2.symm⟩

theorem readReg_of_cell (env : Env) (c : Conn) {r : VReg} {f : File} {i : Nat} (h : cell r = some (f, i)) :
    readReg env c r = (c.regs.file f).getD i 0 := by
  obtain ⟨a, j⟩ := r
  simp only [cell] at h
  split at h <;> cases h <;> rfl

theorem readReg_no_cell (env : Env) (c c' : Conn) {r : VReg} (h : cell r = none) :
    readReg env c' r = readReg env c r := by
  obtain ⟨a, j⟩ := r
  simp only [cell] at h
  simp only [readReg]
  -- immediates, primitives and unknown classes read no file; a class with a cell contradicts `h`
  split <;> first | rfl | cases h

theorem readReg_congr (env env' : Env) {c c' : Conn} {r : VReg} {f : File} {i : Nat} (h : cell r = some (f, i))
    (hf : c'.regs.file f = c.regs.file f) : readReg env' c' r = readReg env c r := by
  rw [readReg_of_cell env' c' h, readReg_of_cell env c h, hf]

/-- `writeReg`, once: a write inside the array replaces one element of one file (and moves the clock origin when
the cell is `Micros`, implicit register 3); anything else is dropped -/
theorem writeReg_of_cell (env : Env) (c : Conn) (v : Val) {r : VReg} {f : File} {i : Nat}
    (h : cell r = some (f, i)) :
    writeReg env c v r =
      if i < f.cap then
        { c with regs := c.regs.upd f ((c.regs.file f).set i v),
                 t0 := if f = .impl ∧ i = 3 then env.now - v else c.t0 }
      else c := by
  obtain ⟨a, j⟩ := r
  simp only [cell] at h
  split at h <;> cases h <;> simp only [writeReg, File.cap, Regs.upd, Regs.file, reduceCtorEq, false_and, if_false]
  -- the implicit file: libccp's `switch` over the six indices
  by_cases h3 : i = 3
  · subst h3; simp
  · by_cases h6 : i < 6
    · rw [if_pos (by omega), if_pos h6]; simp [h3]
    · rw [if_neg (by omega), if_neg h3, if_neg h6]

theorem writeReg_no_cell (env : Env) (c : Conn) (v : Val) {r : VReg} (h : cell r = none) :
    writeReg env c v r = c := by
  obtain ⟨a, j⟩ := r
  simp only [cell] at h
  simp only [writeReg]
  -- the default branch of `writeReg` returns `c`; a class with a cell contradicts `h`
  split <;> first | rfl | cases h

theorem readReg_writeReg (env env0 : Env) (c : Conn) (v : Val) {r r' : VReg} {f g : File} {i j : Nat}
    (h : cell r = some (f, i)) (h' : cell r' = some (g, j)) :
    readReg env (writeReg env0 c v r) r' =
      if g = f ∧ i = j ∧ i < f.cap ∧ i < (c.regs.file f).length then v else readReg env c r' := by
  rw [writeReg_of_cell env0 c v h, readReg_of_cell env c h']
  by_cases hc : i < f.cap
  · rw [if_pos hc, readReg_of_cell env _ h']
    simp only [Regs.file_upd]
    by_cases hg : g = f
    · subst hg; simp only [if_true, true_and, getD_set_eq, hc]
    · simp only [hg, if_false, false_and]
  · rw [if_neg hc, readReg_of_cell env c h']
    simp [hc]

theorem readReg_writeReg_ne (env env0 : Env) (c : Conn) (v : Val) (r r' : VReg) (h : ¬ sameCell r r') :
    readReg env (writeReg env0 c v r) r' = readReg env c r' := by
  cases hr : cell r with
  | none => rw [writeReg_no_cell env0 c v hr]
  | some p =>
    cases hr' : cell r' with
    | none => exact readReg_no_cell env _ _ hr'
    | some q =>
      obtain ⟨f, i⟩ := p
      obtain ⟨g, j⟩ := q
      rw [readReg_writeReg env env0 c v hr hr', if_neg]
      rintro ⟨rfl, rfl, -⟩
      exact h (sameCell_of_cell hr hr')

/-- the register files have (at least) libccp's sizes; `writeReg` silently drops a write to a slot
that does not exist, so without this no simulation can hold -/
def RegsWf (c : Conn) : Prop :=
  110 ≤ c.regs.report.length ∧ 110 ≤ c.regs.control.length ∧ 6 ≤ c.regs.impl.length ∧
  8 ≤ c.regs.tmp.length ∧ 8 ≤ c.regs.loc.length

theorem regsWf_iff (c : Conn) : RegsWf c ↔ ∀ f : File, f.cap ≤ (c.regs.file f).length :=
  ⟨fun ⟨h1, h2, h3, h4, h5⟩ f => by cases f <;> assumption,
   fun h => ⟨h .report, h .control, h .impl, h .tmp, h .loc⟩⟩

/-- a register that a write reaches: it has a cell, inside its array (`File.cap`) -/
def Writable (r : VReg) : Prop := ∃ f, cell r = some (f, r.idx) ∧ r.idx < f.cap

theorem readReg_writeReg_self (env env0 : Env) (c : Conn) (v : Val) (r : VReg) (hwf : RegsWf c)
    (hr : Writable r) : readReg env (writeReg env0 c v r) r = v := by
  obtain ⟨f, h, hi⟩ := hr
  rw [readReg_writeReg env env0 c v h h,
    if_pos ⟨rfl, rfl, hi, Nat.lt_of_lt_of_le hi ((regsWf_iff c).mp hwf f)⟩]

theorem writeReg_frame (env : Env) (c : Conn) (v : Val) {r : VReg} {f : File} {i : Nat} (h : cell r = some (f, i)) :
    (∀ g, g ≠ f → (writeReg env c v r).regs.file g = c.regs.file g) ∧
    ((writeReg env c v r).regs.file f).length = (c.regs.file f).length ∧
    (∀ j, j ≠ i → ((writeReg env c v r).regs.file f).getD j 0 = (c.regs.file f).getD j 0) := by
  rw [writeReg_of_cell env c v h]
  split
  · refine ⟨fun g hg => by simp only [Regs.file_upd, if_neg hg],
      by simp only [Regs.file_upd, if_true, List.length_set], fun j hj => ?_⟩
    simp only [Regs.file_upd, if_true, getD_set_eq]
    rw [if_neg (fun h => hj h.1.symm)]
  · exact ⟨fun _ _ => rfl, rfl, fun _ _ => rfl⟩

theorem writeReg_wf (env : Env) (c : Conn) (v : Val) (r : VReg) (hwf : RegsWf c) :
    RegsWf (writeReg env c v r) := by
  cases hr : cell r with
  | none => rw [writeReg_no_cell env c v hr]; exact hwf
  | some p =>
    obtain ⟨f, i⟩ := p
    obtain ⟨h1, h2, -⟩ := writeReg_frame env c v hr
    rw [regsWf_iff] at hwf ⊢
    intro g
    by_cases hg : g = f
    · subst hg; rw [h2]; exact hwf g
    · rw [h1 g hg]; exact hwf g

/-- only a write to `Micros` (`impl[3]`) moves the clock origin -/
theorem writeReg_t0 (env : Env) (c : Conn) (v : Val) (r : VReg) (h : cell r ≠ some (.impl, 3)) :
    (writeReg env c v r).t0 = c.t0 := by
  cases hr : cell r with
  | none => rw [writeReg_no_cell env c v hr]
  | some p =>
    obtain ⟨f, i⟩ := p
    rw [writeReg_of_cell env c v hr]
    split
    · show (if f = .impl ∧ i = 3 then _ else _) = _
      rw [if_neg]
      rintro ⟨rfl, rfl⟩
      exact h hr
    · rfl

theorem writeReg_t0_micros (env : Env) (c : Conn) (v : Val) :
    (writeReg env c v ⟨2, 3⟩).t0 = env.now - v := by
  simp [writeReg]

end Portus.Lang.Frag
