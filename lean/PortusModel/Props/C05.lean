import PortusModel.Lemmas.RtStep
/-!
# C05 — a datapath is always sent a program before being told to use it

Step-level theorems over the dispatch model: which messages cause installations (and where in the step), and that
every change-program command goes to the sender's own address, naming a configured program. They say, one step at a
time, why the property holds: a flow can only issue commands while its address is registered
(`addresses_stay_registered`); an address gets registered only in a step that first sends it the complete install
batch; a ready re-sends the batch in the same step that resets the address.

The proof over whole histories (`Props/C05History`) does not go through these theorems: it is a case analysis of
`Rt.Stepped` of its own and takes from this file only `registered`, `batch` and `first_contact_evs`.
-/
namespace Portus.C05
open Portus Portus.Wire Portus.Ipc Portus.Rt

def registered {σ : Type} (st : St σ) (a : Addr) : Prop := (st.flows.lookup a).isSome = true

/-- the complete install batch for `addr`, in configuration order, each program exactly once -/
def batch (cfg : Cfg) (addr : Addr) : List Ev := cfg.progs.map fun p => Ev.tx addr p.install

theorem _root_.Portus.Rt.Stepped.registered {σ : Type} {cfg : Cfg} {st : St σ} {addr : Addr} {msg : Msg} {r : StepRes σ}
    (h : Stepped cfg st addr msg r) {a : Addr} (ha : C05.registered st a) : C05.registered r.st a := by
  unfold C05.registered at ha ⊢
  rcases h.flows with e | ⟨fm, e⟩ <;> rw [e]
  · exact ha
  · rw [lookup_setAddr]
    split <;> simp [ha]

/-- what a create from a never-seen address emits before `new_flow`: the batch (there is no flow to drop) -/
theorem first_contact_evs {σ : Type} (cfg : Cfg) {st : St σ} {addr : Addr} (sid : Nat) (hun : st.flows.lookup addr = none) :
    (if (st.flows.lookup addr).isSome = true then [] else cfg.progs.map fun p => Ev.tx addr p.install) ++
      dropAll ((st.fm addr).filter fun p => p.1 = sid) = batch cfg addr := by
  simp [St.fm, hun, dropAll, batch]

/-- **A ready installs everything, exactly once**: after the old flows are dropped the batch goes to `addr`, and
nothing else — unless the transport fails a send, in which case the runtime stops with an error. -/
theorem ready_installs_all {σ : Type} (cfg : Cfg) (pol : Policy σ) (st : St σ) (addr : Addr) (id : Nat) :
    (∃ st', step cfg pol st addr (.rdy id) = .ok (.cont st' (dropAll ((st.flows.lookup addr).getD []) ++ batch cfg addr)) ∧
        registered st' addr) ∨
    (∃ st' evs, step cfg pol st addr (.rdy id) = .ok (.fail st' evs) ∧ Ev.txFail addr ∈ evs) := by
  obtain ⟨r, hr, hs⟩ : ∃ r, step cfg pol st addr (.rdy id) = .ok r ∧ Stepped cfg st addr (.rdy id) r :=
    ⟨_, rfl, stepped_rdy cfg st addr id⟩
  cases hs with
  | rdy _ h => exact Or.inl ⟨_, hr, by simp [registered, lookup_setAddr]⟩
  | rdyFail _ h => exact Or.inr ⟨_, _, hr, by simp⟩

/-- **First contact by create installs everything before the handler runs**: the batch, then `new_flow`, then
whatever the new flow's user code causes — or the runtime stops on a failed install send, without any callback. -/
theorem first_create_installs_before_handler {σ : Type} (cfg : Cfg) (pol : Policy σ) (hb : pol.Bounded)
    (st : St σ) (addr : Addr) (c : Create) (hun : st.flows.lookup addr = none) :
    (∃ st' uevs, step cfg pol st addr (.cr c) = .ok (.cont st' (batch cfg addr ++
        [.newFlow st.nextFlow (cfg.pick (c.alg.getD [])) ⟨c.sid, c.cwnd, c.mss, c.srcIp, c.srcPort, c.dstIp, c.dstPort⟩ c.sid]
        ++ uevs)) ∧ (∀ e ∈ uevs, UserEv addr c.sid st.nextFlow e) ∧ registered st' addr) ∨
    (∃ st' evs, step cfg pol st addr (.cr c) = .ok (.fail st' evs) ∧ evs.filter isCallback = []) := by
  obtain ⟨r, hr, hs⟩ := step_stepped cfg pol hb st addr (.cr c)
  cases hs with
  | crFail _ _ h => exact Or.inr ⟨_, _, hr, rfl⟩
  | create _ u sf uevs h hsf hu =>
    rw [first_contact_evs cfg c.sid hun] at hr
    exact Or.inl ⟨_, uevs, by rw [List.append_assoc]; exact hr, fun e he => (hu e he).1,
      by simp [registered, lookup_setAddr]⟩

/-- **No other message causes any installation**: every transmission of such a step is the effect of user code
through a flow handle (a change-program or update-field command, type 4 or 3 — never an install, type 2). -/
theorem no_other_installs {σ : Type} (cfg : Cfg) (pol : Policy σ) (hb : pol.Bounded) (st : St σ)
    (addr : Addr) (msg : Msg) (hmsg : (∀ id, msg ≠ .rdy id) ∧ (∀ c, msg = .cr c → registered st addr)) :
    ∃ r, step cfg pol st addr msg = .ok r ∧
      ∀ a b, Ev.tx a b ∈ r.evs → a = addr ∧ (rd16 b = 4 ∨ rd16 b = 3) ∧ rd32 (b.drop 4) = msgSid msg % 2^32 := by
  obtain ⟨r, hr, hs⟩ := step_stepped cfg pol hb st addr msg
  refine ⟨r, hr, fun a b hmem => ?_⟩
  have huser : ∀ {sid flow uevs}, UserEvs cfg addr sid flow uevs → Ev.tx a b ∈ uevs →
      a = addr ∧ (rd16 b = 4 ∨ rd16 b = 3) ∧ rd32 (b.drop 4) = sid % 2^32 := by
    intro sid flow uevs hu hm
    rcases (hu _ hm).1 with h | ⟨b', hb', ht, hs⟩ | ⟨_, h⟩
    · cases h
    · cases hb'; exact ⟨rfl, ht, hs⟩
    · cases h
  have hdrop : ∀ fm : List (Nat × Flow σ), Ev.tx a b ∉ dropAll fm := by
    intro fm hm
    obtain ⟨n, _, h⟩ := List.mem_map.mp hm
    cases h
  -- `other`, `unknown` and `crFail` emit no `tx` and go with the `simp`; in the other cases `hmem` becomes membership
  -- in the user events (or, for a create, the drops)
  cases hs <;> simp only [StepRes.evs, List.mem_append, List.mem_cons, List.not_mem_nil,
    or_false, false_or, reduceCtorEq] at hmem
  case report hu => exact huser hu hmem
  case close hu => exact huser hu hmem
  case rdy id _ => exact absurd rfl (hmsg.1 id)
  case rdyFail id _ => exact absurd rfl (hmsg.1 id)
  case create c _ _ _ _ _ hu =>
    have hreg : (st.flows.lookup addr).isSome = true := hmsg.2 c rfl
    simp only [hreg, if_true, List.not_mem_nil, false_or] at hmem
    rcases hmem with hmem | hmem
    · exact absurd hmem (hdrop _)
    · exact huser hu hmem

/-- an address, once registered, stays registered (a ready re-registers it in the same step) -/
theorem addresses_stay_registered {σ : Type} (cfg : Cfg) (pol : Policy σ) (hb : pol.Bounded) (st : St σ)
    (addr : Addr) (msg : Msg) (a : Addr) (ha : registered st a) :
    ∃ r, step cfg pol st addr msg = .ok r ∧ registered r.st a := by
  obtain ⟨r, hr, hs⟩ := step_stepped cfg pol hb st addr msg
  exact ⟨r, hr, hs.registered ha⟩

/-- **Install before use, per step.** Every change-program command transmitted in a step goes to the
address of the message being handled and names the uid of a configured program; and the step either
found that address already registered, or is the very step that registers it — in which case the
complete install batch was transmitted to it earlier in the same step (`first_create_installs_before_
handler`, `ready_installs_all`). -/
theorem install_before_use_partial {σ : Type} (cfg : Cfg) (pol : Policy σ) (hb : pol.Bounded) (st : St σ)
    (addr : Addr) (msg : Msg) :
    ∃ r, step cfg pol st addr msg = .ok r ∧
      ∀ a b, Ev.tx a b ∈ r.evs → rd16 b = 4 → (∀ p ∈ cfg.progs, b ≠ p.install) →
        a = addr ∧ ∃ p ∈ cfg.progs, rd32 (b.drop 8) = p.scope.uid % 2^32 := by
  obtain ⟨r, h, hev⟩ := step_ok cfg pol hb st addr msg
  refine ⟨r, h, ?_⟩
  intro a b hmem ht hni
  rcases hev _ hmem with (hc | hf | ⟨p, hp, he⟩) | ⟨flow, hu, huid⟩
  · cases hc
  · cases hf
  · injection he with e1 e2
    exact absurd e2 (hni p hp)
  · rcases hu with h | ⟨b', hb', _, _⟩ | ⟨_, h⟩
    · cases h
    · injection hb' with e1 e2
      exact ⟨e1, huid a b rfl ht⟩
    · cases h

end Portus.C05
