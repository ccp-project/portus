import PortusModel.Props.C02
/-!
# C09 — datapaths are isolated from each other and replies go to their origin
-/
namespace Portus.C09
open Portus Portus.Wire Portus.Ipc Portus.Rt

/-- **Flows are keyed by (address, flow id).** Whatever message arrives from `addr`, the flows registered under
every other address are untouched, even when flow ids coincide. (With `C02`: it can only create, feed, replace or
close the flow registered under `(addr, its flow id)`, and a restart of `addr` discards only `addr`'s flows.) -/
theorem other_datapaths_untouched {σ : Type} (cfg : Cfg) (pol : Policy σ) (hb : pol.Bounded) (st : St σ)
    (hw : WfSt st) (addr : Addr) (msg : Msg) :
    ∃ r, step cfg pol st addr msg = .ok r ∧ ∀ a s, a ≠ addr → curNo r.st a s = curNo st a s := by
  have _ := hw -- not needed: the step leaves the other addresses' flow maps themselves untouched
  obtain ⟨r, hr, hs⟩ := step_stepped cfg pol hb st addr msg
  refine ⟨r, hr, fun a s ha => ?_⟩
  unfold curNo cur
  rw [hs.lookup_ne ha]

/-- **Replies go to their origin.** Everything the runtime transmits while handling a message from `addr` is
addressed to `addr`; a command (change-program or update-field) carries the flow id of the message being handled,
i.e. the id from the create message of the flow whose handle issued it. -/
theorem commands_go_home {σ : Type} (cfg : Cfg) (pol : Policy σ) (hb : pol.Bounded) (st : St σ)
    (addr : Addr) (msg : Msg) :
    ∃ r, step cfg pol st addr msg = .ok r ∧
      ∀ e ∈ r.evs,
        (∀ a, e = .txFail a → a = addr) ∧
        (∀ a b, e = .tx a b → a = addr ∧
          ((∃ p ∈ cfg.progs, b = p.install) ∨
           ((rd16 b = 4 ∨ rd16 b = 3) ∧ rd32 (b.drop 4) = msgSid msg % 2^32))) := by
  obtain ⟨r, h, hev⟩ := step_ok cfg pol hb st addr msg
  refine ⟨r, h, ?_⟩
  intro e he
  -- the six shapes of an event, in this order: a callback, a failed install send, an install send; from user code a
  -- failed send, a command, a log line
  rcases hev e he with (hc | rfl | ⟨p, hp, rfl⟩) | ⟨flow, rfl | ⟨b, rfl, ht, hs⟩ | ⟨m, rfl⟩, _⟩
  · exact ⟨fun a ha => (by subst ha; cases hc), fun a b ha => (by subst ha; cases hc)⟩
  · exact ⟨fun a ha => (Ev.txFail.inj ha).symm, fun a b ha => nomatch ha⟩
  · exact ⟨fun a ha => (nomatch ha), fun a b ha => (by cases ha; exact ⟨rfl, .inl ⟨p, hp, rfl⟩⟩)⟩
  · exact ⟨fun a ha => (Ev.txFail.inj ha).symm, fun a b ha => nomatch ha⟩
  · exact ⟨fun a ha => (nomatch ha), fun a b' ha => (by cases ha; exact ⟨rfl, .inr ⟨ht, hs⟩⟩)⟩
  · exact ⟨fun a ha => (nomatch ha), fun a b ha => nomatch ha⟩

end Portus.C09
