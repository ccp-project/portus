import PortusModel.Lemmas.CompileInv
/-!
# C10 — the compiler is total: any source text yields Ok or Err, never a panic

`compileAndSerializeBytes` is the model of `compile_and_serialize(src: &[u8], updates)`: UTF-8
decoding, the nom parser, scope construction, `compile_expr`/`compile_prog`, and the encoder, with
every `unreachable!()`, `unwrap()`, `assert_eq!`, `u8 += 1` of the Rust source kept as a `panic`
outcome. The theorem says none of them is reachable.
Termination is part of the statement: all model functions are total Lean definitions (structural
or fuelled recursion with fuel = input length + 1).
-/
namespace Portus.Lang
open Portus

/-! The statements of two stages, audited under these names (`tools/props/c10.py`). -/

theorem declareAll_spec (uid : Nat) (ds : List Decl) (hn : ∀ d ∈ ds, d.var ≠ flagName) :
    declareAll (Scope.new uid) ds ≠ .panic ∧
    ∀ sc, declareAll (Scope.new uid) ds = .ok sc → ScInv sc :=
  ⟨declareAll_ne_panic _ _ ⟨rfl, rfl⟩, fun _ h => declareAll_scInv hn h⟩

theorem compileExpr_spec (e : Expr) (hd : NoDefE e) (sc : Scope) (hs : ScInv sc) :
    compileExpr e sc ≠ .panic ∧ ∀ c, compileExpr e sc = .ok c → Good c ∧ ScInv c.sc :=
  ⟨compileExpr_ne_panic hd hs, fun _ h => ⟨compileExpr_good hs h, (Reach.of_compileExpr h).scInv hs⟩⟩

end Portus.Lang

namespace Portus.C10
open Portus Portus.Lang

/-- the oracle of the test driver on the observed outcome class -/
def check (obs : Out Unit) : Bool :=
  match obs with
  | .panic => false
  | _ => true

/-- `Prog::new_with_scope` never panics and establishes the scope invariant. -/
theorem new_with_scope_no_panic (uid : Nat) (src : List Char) : newWithScope uid src ≠ .panic := by
  unfold newWithScope
  split
  · nofun
  · exact Out.bind_no_panic _ _ (declareAll_ne_panic _ _ ⟨rfl, rfl⟩) fun _ _ => nofun

theorem compile_no_panic (uid : Nat) (src : List Char) (upd : List (Name × Nat)) :
    compile uid src upd ≠ .panic := by
  unfold compile
  refine Out.bind_no_panic _ _ (new_with_scope_no_panic uid src) ?_
  rintro ⟨evs, sc⟩ h
  obtain ⟨ds, hp, hd⟩ := newWithScope_ok h
  exact compileProg_ne_panic (parseSource_NoDef src ds evs hp) (start_scInv hp hd upd)

/-- **The compiler is total**, on decoded characters -/
theorem compile_and_serialize_no_panic (uid : Nat) (src : List Char) (upd : List (Name × Nat)) :
    compileAndSerialize uid src upd ≠ .panic := by
  unfold compileAndSerialize
  refine Out.bind_no_panic _ _ (compile_no_panic uid src upd) ?_
  rintro ⟨bin, sc⟩ h
  obtain ⟨ds, evs, sc0, hp, hd, hc⟩ := compile_ok h
  exact Out.bind_no_panic _ _ (Bin.serialize_ne_panic (compileProg_clean (start_scInv hp hd upd) hc))
    fun _ _ => nofun

/-- The same for raw bytes (invalid UTF-8 is an error). -/
theorem compile_and_serialize_bytes_no_panic (uid : Nat) (src : Bytes) (upd : List (Name × Nat)) :
    compileAndSerializeBytes uid src upd ≠ .panic := by
  unfold compileAndSerializeBytes
  split
  · simp
  · exact compile_and_serialize_no_panic uid _ upd

theorem check_model (uid : Nat) (src : Bytes) (upd : List (Name × Nat)) :
    check (match compileAndSerializeBytes uid src upd with
      | .ok _ => .ok () | .err => .err | .panic => .panic) = true := by
  have := compile_and_serialize_bytes_no_panic uid src upd
  cases h : compileAndSerializeBytes uid src upd <;> simp_all [check]

/-! Tests, run by the compiler at build time: the inputs on which the unrepaired Rust code panics (DESIGN 6.1 F7) are
errors, comments in bodies are accepted, and a valid program compiles. -/

#guard (compileAndSerialize 1 "(def (Report (x 0))) (when true (:= Report.x 1) (report))".toList []).isOk
#guard (compileAndSerialize 1 "(def (Report (x 0))) (when true # c\n (report))".toList []).isOk
#guard compileAndSerialize 1 "(def (Report (x 0))) (when (report) (report))".toList [] == .err
#guard compileAndSerialize 1 "(def (Report (x 0))) (when true (if true 1))".toList [] == .err
#guard compileAndSerialize 1 "(def (Report (x 0))) (when true (:= Cwnd (if true 1)))".toList [] == .err
#guard compileAndSerialize 1 "(def (Report (x 0))) (when Report.x (report))".toList [] == .err

end Portus.C10
