import PortusModel.Props.C01Decode
import PortusModel.Props.C07
import PortusModel.Props.C12
/-!
# From the program text to the value a flow reads by name — C01, C07, C12 and C13 composed

The user-level guarantee the four properties give TOGETHER, for every program of C01's fragment, every input sequence and every
report variable: the value `Report::get_field(name)` returns inside `on_report` is the value the SOURCE SEMANTICS gives the
variable `name` at the end of that invocation.

* the compiled program, installed from its bytes, makes the datapath model report exactly the values the source semantics
  denotes, in declaration order (`C01.run_correct_from_bytes`);
* libccp writes those values into a measurement message, and portus' decoder returns them intact with the program's uid
  (`C07.libccp_measure_decodes`);
* `get_field` with the scope of that compilation reads the `k`-th declared report variable from slot `k`
  (`C12.declared_report_variable_reads_its_slot`, which rests on C13).
-/
namespace Portus.Vertical
open Portus Portus.Lang Portus.Wire Portus.Vm Portus.Rt Portus.Lang.Frag Portus.C01

def reportOf : IObs → Option (List Nat)
  | .done _ _ r => r
  | .fault _ => none

theorem reportOf_ofVm_lt (o : Vm.Obs) (vals : List Nat) (h : reportOf (ofVm o) = some vals) :
    ∀ v ∈ vals, v < 2^64 := by
  unfold ofVm at h
  split at h
  · cases h
  · obtain ⟨p, _, rfl⟩ := Option.map_eq_some_iff.mp h
    exact List.forall_mem_map.mpr fun u _ => UInt64.toNat_lt u

theorem report_of_run_lt (l : List Vm.Obs) (i : Nat) (vals : List Nat)
    (h : ((l.map ofVm)[i]?).bind reportOf = some vals) : ∀ v ∈ vals, v < 2^64 := by
  rw [List.getElem?_map] at h
  obtain ⟨_, hio, hr⟩ := Option.bind_eq_some_iff.mp h
  obtain ⟨o, _, rfl⟩ := Option.map_eq_some_iff.mp hio
  exact reportOf_ofVm_lt o vals hr

/-- **What the datapath reports is what the source denotes, and it survives the wire**: for the `i`-th invocation of any input
sequence, if the source semantics (inside the fragment) reports the values `vals`, then the datapath model fed the install and
change-program BYTES reports exactly `vals` under the program's uid, the measurement message libccp writes for them decodes — in
front of any other bytes — to a measurement carrying that uid and exactly `vals`. -/
theorem reported_values_reach_the_decoder (uid : Nat) (src : List Char) (upd : List (Name × Nat)) (ds : List Decl)
    (evs : List Event) (bin : Bin) (scF : Scope) (img : Bytes) (decls : List Sem.VarDecl) (msg : Bytes)
    (hp : parseSource src = some (ds, evs))
    (hnd : (ds.map (·.var)).Nodup)
    (hfresh : ∀ d ∈ ds, (Scope.new uid).get d.var = none)
    (hc : compile uid src upd = .ok (bin, scF))
    (hser : bin.serialize = .ok img)
    (hv : varDecls ds upd = some decls)
    (hloc : scF.numLocal ≤ 6)
    (hne : evs ≠ [])
    (hst : InOracle evs = true)
    (hlits : LitsOk evs = true) (hwr : WritesOk evs = true)
    (hmsg : serializeInstall (installOf uid bin) = .ok msg)
    (huid : uid < 2^32) (hne256 : bin.events.length ≤ 256) (hni256 : bin.instrs.length ≤ 256) :
    ∃ dp1 dp2 dp3, readMsg Dp.init msg = (dp1, 0) ∧ connStart dp1 = some (dp2, 1) ∧
      readMsg dp2 (cpBytes 1 uid) = (dp3, 0) ∧
      ∀ (now : Val) (prims : Prims) (rest : List (Val × Prims)) (exp : List IObs) (i : Nat) (vals : List Nat),
        (Sem.run decls evs (Sem.initState decls now) (((now, prims) :: rest).map envOf)).mapM ofSem = some exp →
        (exp[i]?).bind reportOf = some vals →
        (((dpRun 1 dp3 ((now, prims) :: rest)).map ofVm)[i]?).bind reportOf = some vals ∧
        (vals.length ≤ 255 → ∀ (sid : Nat) (more : Bytes), sid < 2^32 →
          fromBuf (Libccp.writeMeasure sid uid vals ++ more) =
            .ok (.ms { sid := sid, uid := uid, numFields := vals.length, fields := vals }, 16 + 8 * vals.length)) := by
  obtain ⟨dp1, dp2, dp3, h1, h2, h3, h4⟩ := run_correct_from_bytes uid src upd ds evs bin scF img decls msg hp hnd hfresh hc
    hser hv hloc hne hst hlits hwr hmsg huid hne256 hni256
  refine ⟨dp1, dp2, dp3, h1, h2, h3, ?_⟩
  intro now prims rest exp i vals hexp hvals
  have h5 := h4 now prims rest
  rw [hexp] at h5
  simp only at h5
  have hrun : (((dpRun 1 dp3 ((now, prims) :: rest)).map ofVm)[i]?).bind reportOf = some vals := by
    rw [h5]; exact hvals
  refine ⟨hrun, ?_⟩
  intro hlen sid more hsid
  exact C07.libccp_measure_decodes sid uid vals more hsid huid hlen (report_of_run_lt _ i vals hrun)

/-- **The flow reads a reported value back by name** — never another slot, never a panic -/
theorem flow_reads_value_by_name (uid : Nat) (src : List Char) (upd : List (Name × Nat)) (ds : List Decl)
    (evs : List Event) (bin : Bin) (scF : Scope)
    (hp : parseSource src = some (ds, evs)) (hnd : (ds.map (·.var)).Nodup)
    (hfresh : ∀ d ∈ ds, (Scope.new uid).get d.var = none) (hc : compile uid src upd = .ok (bin, scF))
    (vals : List Nat) (k : Nat) (hk : k < (reportsOf ds).length) (hf : k < vals.length) :
    getFieldP uid vals (reportsOf ds)[k].var scF = .ok (.ok vals[k]) ∧
    getField uid vals (reportsOf ds)[k].var scF = .ok vals[k] := by
  have h := C12.declared_report_variable_reads_its_slot uid src upd ds evs bin scF hp hnd hfresh hc vals k hk hf
  refine ⟨h, ?_⟩
  have h2 := C12.getField_eq uid vals (reportsOf ds)[k].var scF
  rw [h] at h2
  injection h2 with h2
  exact h2.symm

end Portus.Vertical
