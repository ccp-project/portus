import PortusModel.Generated.UidOp
import PortusModel.Lemmas.UidIndep
import PortusModel.Props.C06
/-!
# C17 — program uids are unique across all compilations, even concurrent ones (partial)

The allocation code is *translated* from `/repo/src/lang/datapath.rs` on every run
(`Generated/UidOp.lean`). Proved: if one allocation is a single atomic read-modify-write
(`fetch_add(k)`, `k ≥ 1`, result `old + d`), then under every interleaving of any number of threads all returned
uids are pairwise distinct (as long as the counter does not wrap: fewer than `2^32 / k` allocations); the generated code has that form; the
uid of the returned scope is the allocated one, is what the install message carries and what
`set_program` names. Partial: atomicity / sequential consistency of `AtomicU32` is an assumption.
-/
namespace Portus.C17
open Portus Portus.Conc

def remaining (w : World) : Nat := (w.threads.map (·.todo)).sum

/-- every uid handed out lies at least one step below what the next allocation returns (`below`), and the counter
has room for the allocations still to come (`room`): so the next uid is new and nothing wraps -/
structure Inv (k d bound : Nat) (w : World) : Prop where
  idle : ∀ t ∈ w.threads, t.pc = []
  room : w.counter + k * remaining w + d < bound
  below : ∀ x ∈ w.out, x + k ≤ w.counter + d
  nodup : w.out.Nodup

private theorem sum_set_todo (ts : List Thread) (i : Nat) (t t' : Thread) (h : ts[i]? = some t)
    (ht : t'.todo + 1 = t.todo) :
    ((ts.set i t').map (·.todo)).sum + 1 = (ts.map (·.todo)).sum := by
  obtain ⟨hi, rfl⟩ := List.getElem?_eq_some_iff.mp h
  rw [List.set_eq_take_append_cons_drop, if_pos hi]
  conv => rhs; rw [← List.take_append_drop i ts, List.drop_eq_getElem_cons hi]
  simp only [List.map_append, List.map_cons, List.sum_append_nat, List.sum_cons]
  omega

private theorem step_eq (k d : Nat) (w : World) (i : Nat) (t : Thread) (ht : w.threads[i]? = some t)
    (hpc : t.pc = []) :
    stepThread [.fetchAdd k] d w i =
      if t.todo > 0 then
        { counter := (w.counter + k) % M,
          threads := w.threads.set i { pc := [], reg := w.counter, todo := t.todo - 1 },
          out := ((w.counter + d) % M) :: w.out }
      else w := by
  unfold stepThread
  simp only [ht, hpc, List.isEmpty_nil, true_and]
  by_cases htodo : t.todo > 0
  · simp [htodo]
  · simp [htodo, hpc]

theorem step_inv (k d : Nat) (hk : 1 ≤ k) (w : World) (i : Nat) (h : Inv k d M w) :
    Inv k d M (stepThread [.fetchAdd k] d w i) := by
  cases ht : w.threads[i]? with
  | none => unfold stepThread; simp only [ht]; exact h
  | some t =>
    have hmem : t ∈ w.threads := List.mem_of_getElem? ht
    have hpc := h.idle t hmem
    rw [step_eq k d w i t ht hpc]
    by_cases htodo : t.todo > 0
    · rw [if_pos htodo]
      have hs := sum_set_todo w.threads i t { pc := [], reg := w.counter, todo := t.todo - 1 } ht (by simp; omega)
      have hroom := h.room
      rw [remaining, ← hs, Nat.mul_add, Nat.mul_one] at hroom
      rw [Nat.mod_eq_of_lt (a := w.counter + k) (by omega), Nat.mod_eq_of_lt (a := w.counter + d) (by omega)]
      refine ⟨?_, ?_, ?_, ?_⟩
      · intro t' ht'
        rcases List.mem_or_eq_of_mem_set ht' with h1 | h1
        · exact h.idle t' h1
        · rw [h1]
      · unfold remaining
        dsimp only
        omega
      · intro x hx
        show x + k ≤ w.counter + k + d
        rcases List.mem_cons.mp hx with rfl | hx'
        · omega
        · have := h.below x hx'; omega
      · show ((w.counter + d) :: w.out).Nodup
        rw [List.nodup_cons]
        refine ⟨?_, h.nodup⟩
        intro hin
        have := h.below _ hin
        omega
    · rw [if_neg htodo]
      exact h

/-- **Uniqueness under every interleaving** (`allocs` = how many allocations each thread performs; `hM`: the
counter does not wrap). -/
theorem single_rmw_unique (k d c0 : Nat) (hk : 1 ≤ k) (allocs : List Nat) (sched : List Nat)
    (hM : c0 + k * allocs.sum + d < M) :
    (runSchedule [.fetchAdd k] d (World.init c0 allocs) sched).out.Nodup := by
  have hinit : Inv k d M (World.init c0 allocs) := by
    refine ⟨List.forall_mem_map.mpr fun _ _ => rfl, ?_, nofun, List.nodup_nil⟩
    · show c0 + k * remaining (World.init c0 allocs) + d < M
      have : remaining (World.init c0 allocs) = allocs.sum := by
        simp [remaining, World.init, List.map_map, Function.comp_def]
      rw [this]; exact hM
  have : ∀ (s : List Nat) (w : World), Inv k d M w → Inv k d M (runSchedule [.fetchAdd k] d w s) := by
    intro s
    induction s with
    | nil => intro w h; exact h
    | cons i rest ih => intro w h; exact ih _ (step_inv k d hk w i h)
  exact (this sched _ hinit).nodup

/-- the step of an allocation that is one atomic read-modify-write -/
def singleRmw : List AOp → Option Nat
  | [.fetchAdd k] => some k
  | _ => none

/-- the step of the code on disk (0 when it is not a single read-modify-write) -/
def rmwK : Nat := (singleRmw Generated.allocOps).getD 0

/-- **The code on disk is a single read-modify-write** with a positive step — the obligation that a change to
`get_next_uid!` breaks (the file `Generated/UidOp.lean` is rewritten from `/repo` on every run). What is added to the value
read (`retDelta`) and where the counter starts do not matter for uniqueness (they matter to libccp: `C06.first_uid_is_marker`). -/
theorem generated_is_single_rmw : Generated.allocOps = [.fetchAdd rmwK] ∧ 1 ≤ rmwK := by
  decide

/-- hence: uids allocated by the code on disk are unique under every interleaving -/
theorem uids_unique (allocs : List Nat) (sched : List Nat)
    (hM : Generated.counterInit + rmwK * allocs.sum + Generated.retDelta < M) :
    (runSchedule Generated.allocOps Generated.retDelta (World.init Generated.counterInit allocs) sched).out.Nodup := by
  rw [generated_is_single_rmw.1]
  exact single_rmw_unique rmwK _ _ generated_is_single_rmw.2 allocs sched hM

/-- the scope returned by a compilation carries exactly the uid that was allocated for it -/
theorem scope_uid_is_allocated (u : Nat) (src : List Char) (upd : List (Lang.Name × Nat)) (bin : Lang.Bin)
    (sc : Lang.Scope) (h : Lang.compile u src upd = .ok (bin, sc)) : sc.uid = u := by
  have hi := Lang.compile_uid_indep u u src upd
  rw [h] at hi
  injection hi with hi
  exact congrArg (·.2.uid) hi

-- 32678 (not 32768) is libccp's own `BIGGEST_MSG_SIZE` (`Generated/Tables`, `Libccp.BIGGEST_MSG_SIZE`)
/-- the install message built from a scope carries that uid where libccp reads it (C06), and
`set_program` names the selected program's uid (`Rt.setProgram_ok`) -/
theorem uid_in_install (m : Wire.Install) (b : Bytes) (hb : C06.builtIN m) (h : Wire.serializeInstall m = .ok b)
    (hl : b.length ≤ 32678) : ∃ es ms, Libccp.readMsg b = some (.install m.sid m.uid es ms) := by
  obtain ⟨_, _, _, _, ms, hr, _⟩ := C06.install_read_by_libccp m b hb h hl
  exact ⟨_, ms, hr⟩

/-! ## Non-vacuity and the counter-example search used when the obligation breaks -/

-- compiler-evaluated tests (not theorems): a load followed by a store is *not* unique (two threads can both
-- read 0); the generated code has no duplicate among the two-thread interleavings; one concrete schedule
#guard (findDuplicate [.load, .store 1] 1 0).isSome
#guard (findDuplicate Generated.allocOps Generated.retDelta 0).isNone
#guard (runSchedule [.fetchAdd 1] 1 (World.init 0 [2, 1]) [0, 1, 0, 0, 1]).out == [3, 2, 1]

end Portus.C17
