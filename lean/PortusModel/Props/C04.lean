import PortusModel.Lemmas.WireDec
/-!
# C04 — decoding is total, stays inside the buffer, and always makes progress

`fromBuf` is the model of `Msg::from_buf` (`Wire/Dp.lean`), whose slices, indexings and casts are panic-faithful
primitives.
-/
namespace Portus.C04
open Portus Portus.Wire

/-- Rust `buf[lo..hi]` -/
def window (buf : Bytes) (lo hi : Nat) : Bytes := (buf.drop lo).take (hi - lo)

def declaredLen (buf : Bytes) : Nat := rd16 (buf.drop 2)
def typeCode (buf : Bytes) : Nat := rd16 buf

/-- what a decoded message must be, read off the buffer: `u16` type at 0 and length at 2, `u32` flow id at 4, the
payload from 8 (a create's six words and its 64-byte name block, a measurement's uid and count, a ready's id); the
first disjunct for `.other` is `from_buf`'s wrapper around a buffer `deserialize` refuses -/
def typedOk (buf : Bytes) (m : Msg) (n : Nat) : Bool :=
  match m with
  | .cr c =>
    typeCode buf == 0 && n == declaredLen buf && decide (96 ≤ n) &&
    c.sid == rd32 (buf.drop 4) && c.cwnd == rd32 (buf.drop 8) && c.mss == rd32 (buf.drop 12) &&
    c.srcIp == rd32 (buf.drop 16) && c.srcPort == rd32 (buf.drop 20) &&
    c.dstIp == rd32 (buf.drop 24) && c.dstPort == rd32 (buf.drop 28) &&
    c.alg == algSpec (window buf 32 n)
  | .ms m =>
    typeCode buf == 1 && n == declaredLen buf && decide (16 ≤ n) &&
    m.sid == rd32 (buf.drop 4) && m.uid == rd32 (buf.drop 8) && m.numFields == rd32 (buf.drop 12) &&
    decide (m.numFields ≤ 255) && (n - 16) % 8 == 0 && m.fields == fieldsSpec (window buf 16 n)
  | .rdy id =>
    typeCode buf == 5 && n == declaredLen buf && decide (12 ≤ n) && id == rd32 (buf.drop 8)
  | .other r =>
    (r == ⟨255, 0, 0, buf⟩ && n == buf.length) ||
    (r.typ == typeCode buf && r.typ != 0 && r.typ != 1 && r.typ != 5 && n == declaredLen buf &&
      r.len == n && decide (8 ≤ n) && r.sid == rd32 (buf.drop 4) && r.bytes == window buf 8 n)

/-- `C04.check buf observed`: the observed result of decoding `buf` is admissible. -/
def check (buf : Bytes) (res : Out (Msg × Nat)) : Bool :=
  match res with
  | .panic => false
  | .err => true
  | .ok (m, n) =>
    decide (n ≤ buf.length) && ((n == 0) == buf.isEmpty) && typedOk buf m n

theorem from_buf_no_panic (buf : Bytes) : fromBuf buf ≠ .panic := fromBuf_no_panic buf

/-- The consumed length stays inside the buffer and is zero only for the empty buffer. -/
theorem from_buf_progress (buf : Bytes) (m : Msg) (n : Nat) (h : fromBuf buf = .ok (m, n)) :
    n ≤ buf.length ∧ (n = 0 ↔ buf = []) := by
  rcases fromBuf_ok h with ⟨_, rfl⟩ | ⟨r, _, _, _, _, h8, hle, _⟩
  · simp
  · refine ⟨hle, ?_, ?_⟩
    · intro h0; omega
    · intro hb; subst hb; simp at hle; omega

private theorem rd32_win {b buf : Bytes} {n : Nat} (hw : b = window buf 8 n) (k : Nat) (h : 8 + k + 4 ≤ n) :
    rd32 (b.drop k) = rd32 (buf.drop (8 + k)) := by
  subst hw
  unfold window
  rw [List.drop_take, rd32_take _ _ (by omega), List.drop_drop]

private theorem win_drop (buf : Bytes) (n k : Nat) :
    (window buf 8 n).drop k = window buf (8 + k) n := by
  unfold window
  rw [List.drop_take, List.drop_drop]
  congr 1; omega

/-- A create is produced only for type code 0 with a declared length covering the fixed fields and
the whole name block; its fields are the little-endian words at offsets 4,8,…,28 and its name is
read from the bytes `[32, n)`. -/
theorem create_only_when_create (buf : Bytes) (c : Create) (n : Nat)
    (h : fromBuf buf = .ok (.cr c, n)) :
    typeCode buf = 0 ∧ n = declaredLen buf ∧ 96 ≤ n ∧ n ≤ buf.length ∧
    c.sid = rd32 (buf.drop 4) ∧ c.cwnd = rd32 (buf.drop 8) ∧ c.mss = rd32 (buf.drop 12) ∧
    c.srcIp = rd32 (buf.drop 16) ∧ c.srcPort = rd32 (buf.drop 20) ∧
    c.dstIp = rd32 (buf.drop 24) ∧ c.dstPort = rd32 (buf.drop 28) ∧
    c.alg = algSpec (window buf 32 n) := by
  rcases fromBuf_ok h with ⟨hm, _⟩ | ⟨r, hm, ht, hl, _, _, hle, hs, hw, hbl⟩
  · cases hm
  obtain ⟨htyp, hm⟩ := fromRaw_eq_ok.mp hm
  rw [createFromRaw_eq r htyp] at hm
  split at hm
  · cases hm
  rename_i hc
  cases hm
  have h88 : ¬ r.bytes.length < 88 := fun h => hc (.inl h)
  have ek := rd32_win hw
  exact ⟨ht.symm.trans htyp, hl, by omega, hle, hs, ek 0 (by omega), ek 4 (by omega), ek 8 (by omega), ek 12 (by omega),
    ek 16 (by omega), ek 20 (by omega), congrArg algSpec ((congrArg (List.drop 24) hw).trans (win_drop buf n 24))⟩

/-- A measurement is produced only for type code 1 with a declared length covering uid and count;
the values are the whole 8-byte words of `[16, n)` (a ragged tail is never silently dropped) and
the count is the 32-bit word at offset 12, which must fit `u8`. -/
theorem measure_only_when_measure (buf : Bytes) (m : Measure) (n : Nat)
    (h : fromBuf buf = .ok (.ms m, n)) :
    typeCode buf = 1 ∧ n = declaredLen buf ∧ 16 ≤ n ∧ n ≤ buf.length ∧
    m.sid = rd32 (buf.drop 4) ∧ m.uid = rd32 (buf.drop 8) ∧ m.numFields = rd32 (buf.drop 12) ∧
    m.numFields ≤ 255 ∧ (n - 16) % 8 = 0 ∧ m.fields = fieldsSpec (window buf 16 n) := by
  rcases fromBuf_ok h with ⟨hm, _⟩ | ⟨r, hm, ht, hl, _, _, hle, hs, hw, hbl⟩
  · cases hm
  obtain ⟨htyp, hm⟩ := fromRaw_eq_ok.mp hm
  rw [measureFromRaw_eq r htyp] at hm
  split at hm
  · cases hm
  rename_i hc
  cases hm
  have e0 := rd32_win hw 0 (by omega)
  have e4 := rd32_win hw 4 (by omega)
  dsimp only
  exact ⟨ht.symm.trans htyp, hl, by omega, hle, hs, e0, e4, by omega, by omega,
    congrArg fieldsSpec ((congrArg (List.drop 8) hw).trans (win_drop buf n 8))⟩

/-- A ready is produced only for type code 5 with a declared length covering its id. -/
theorem ready_only_when_ready (buf : Bytes) (id n : Nat) (h : fromBuf buf = .ok (.rdy id, n)) :
    typeCode buf = 5 ∧ n = declaredLen buf ∧ 12 ≤ n ∧ n ≤ buf.length ∧ id = rd32 (buf.drop 8) := by
  rcases fromBuf_ok h with ⟨hm, _⟩ | ⟨r, hm, ht, hl, _, _, hle, hs, hw, hbl⟩
  · cases hm
  obtain ⟨htyp, hm⟩ := fromRaw_eq_ok.mp hm
  rw [readyFromRaw_eq r htyp] at hm
  split at hm
  · cases hm
  · cases hm
    exact ⟨ht.symm.trans htyp, hl, by omega, hle, rd32_win hw 0 (by omega)⟩

/-- Every other successful decode is an unknown message: either the undecodable-header wrapper
around the whole buffer, or a message whose type is none of create/measure/ready, carrying the
payload bytes `[8, n)`. -/
theorem otherwise_unknown (buf : Bytes) (r : Raw) (n : Nat) (h : fromBuf buf = .ok (.other r, n)) :
    (r = ⟨255, 0, 0, buf⟩ ∧ n = buf.length) ∨
    (r.typ = typeCode buf ∧ r.typ ≠ 0 ∧ r.typ ≠ 1 ∧ r.typ ≠ 5 ∧ n = declaredLen buf ∧ r.len = n ∧
      8 ≤ n ∧ n ≤ buf.length ∧ r.sid = rd32 (buf.drop 4) ∧ r.bytes = window buf 8 n) := by
  rcases fromBuf_ok h with ⟨hm, hn⟩ | ⟨r', hm, ht, hl, hrl, h8, hle, hs, hw, _⟩
  · exact .inl ⟨Msg.other.inj hm, hn⟩
  · obtain ⟨h0, h1, h5, rfl⟩ := fromRaw_eq_ok.mp hm
    exact .inr ⟨ht, h0, h1, h5, hl, hrl, h8, hle, hs, hw⟩

/-- the theorems above in the decidable form that `./check` evaluates on the implementation's observed behaviour -/
theorem check_fromBuf (buf : Bytes) : check buf (fromBuf buf) = true := by
  unfold check
  cases h : fromBuf buf with
  | panic => exact absurd h (from_buf_no_panic buf)
  | err => rfl
  | ok p =>
    obtain ⟨m, n⟩ := p
    have hp := from_buf_progress buf m n h
    have hp2 : ((n == 0) == buf.isEmpty) = true := by
      rw [beq_iff_eq, Bool.eq_iff_iff, beq_iff_eq, List.isEmpty_iff]
      exact hp.2
    simp only [hp.1, hp2, decide_true, Bool.true_and]
    cases m with
    | cr c =>
      have := create_only_when_create buf c n h
      simp [typedOk, this]
      omega
    | ms m =>
      have := measure_only_when_measure buf m n h
      simp only [typedOk]
      obtain ⟨a1, a2, a3, a4, a5, a6, a7, a8, a9, a10⟩ := this
      simp [a1, ← a2, a3, ← a5, ← a6, ← a7, a8, a9, ← a10]
    | rdy id =>
      have := ready_only_when_ready buf id n h
      simp [typedOk, this]
      omega
    | other r =>
      rcases otherwise_unknown buf r n h with ⟨h1, h2⟩ | ⟨a1, a2, a3, a4, a5, a6, a7, a8, a9, a10⟩
      · simp [typedOk, h1, h2]
      · simp [typedOk, ← a1, ← a5, a6, a7, ← a9, ← a10]
        right; exact ⟨⟨a2, a3⟩, a4⟩

example : fromBuf [5,0,12,0, 0,0,0,0, 7,0,0,0] = .ok (.rdy 7, 12) := by decide
/-- measurement with one value, followed by trailing bytes that are not consumed -/
example : fromBuf [1,0,24,0, 9,0,0,0, 3,0,0,0, 1,0,0,0, 42,0,0,0,0,0,0,0, 0xff, 0xff] =
    .ok (.ms ⟨9, 3, 1, [42]⟩, 24) := by decide
/-- a typed message too short for its fixed fields is an error, not a panic -/
example : fromBuf [0,0,8,0, 1,0,0,0] = .err := by decide
/-- a 16-bit type code that aliases `create` modulo 256 is surfaced as unknown -/
example : fromBuf [0,1,8,0, 1,0,0,0] = .ok (.other ⟨255, 0, 0, [0,1,8,0, 1,0,0,0]⟩, 8) := by decide

end Portus.C04
