import PortusModel.Props.C06
import PortusModel.Lemmas.Datapath
/-!
# C06, second half — libccp *acts* on portus' update-fields and change-program messages as built

`Props/C06.lean`: libccp's reader recovers the records a message was built from. Here, over the libccp model of
`Vm/Datapath.lean` (`readMsg` = `ccp_read_msg`, `stageUpdates` = `stage_multiple_updates`, `invoke` = `ccp_invoke`):
the records are staged in message order, later entries winning ((a) update-fields, at most 127 pairs; (b)
change-program, at most 222 pairs, rebuilt from `Pending.none`), (c) the next `ccp_invoke` applies them before the
program runs, and (d) the program then reads the new values.

Values: libccp does not narrow an update's value. `new_value` is a `u64` and goes unchanged into the pending
slot and from there into the 64-bit control / `Cwnd` / `Rate` register (`UInt64.ofNat v`, the identity for the
`v < 2^64` of `builtUF`/`builtCP`). The `u32` parameter of the `set_cwnd`/`set_rate_abs` callbacks is outside
libccp's registers: `Obs.setCwnd`/`setRate` carry the register value.

Findings (instances of `updatefield_acts` / `changeprog_acts`; examples at the end):
1. update-fields with 128..255 pairs (portus: `num_fields : u8`) is refused by libccp with -52, nothing staged:
   the count is read from one signed byte (`updatefield_over_127_refused`). Hence (a) is for ≤ 127 pairs.
2. a register that is neither control nor implicit (portus' encoder accepts any `Reg`) makes libccp return -53,
   but the pairs *before* it stay staged and those after it are dropped; in a change-program message the
   program switch is staged all the same.
3. implicit registers 0..3 are accepted with 0 and silently dropped.
4. a change-program message discards updates staged by earlier update-fields messages and not yet applied by
   an invocation (intended by libccp: "clear any staged but not applied updates").
5. unknown uid in change-program: return code 8 (positive: the byte count left in `ret`), nothing changes.
-/
namespace Portus.C06
open Portus Portus.Wire Portus.Lang Portus.Vm

/-- `Vm.readMsg_of_libccp` for a flow that exists -/
theorem readMsg_of_libccp_uf (dp : Dp) (buf : Bytes) (sid : Nat) (us : List Libccp.Upd) (c : Conn)
    (h : Libccp.readMsg buf = some (.updateFields sid us)) (hc : getConn dp sid = some c) :
    readMsg dp buf =
      (setConn dp sid { c with pending := (stageUpdates c.pending us).1 }, stageRc (stageUpdates c.pending us)) := by
  rw [readMsg_of_libccp dp buf _ h, act, hc]

theorem readMsg_of_libccp_cp (dp : Dp) (buf : Bytes) (sid uid : Nat) (us : List Libccp.Upd) (c : Conn)
    (h : Libccp.readMsg buf = some (.changeProg sid uid us)) (hc : getConn dp sid = some c) :
    readMsg dp buf =
      match lookupUid dp uid with
      | none => (dp, 8)
      | some idx =>
        (setConn dp sid { c with staged := some idx, pending := (stageUpdates Pending.none us).1 },
          stageRc (stageUpdates Pending.none us)) := by
  rw [readMsg_of_libccp dp buf _ h, act, hc]
  cases lookupUid dp uid <;> rfl

/-- the registers libccp's `stage_update` does not refuse: control registers of either class (wire classes 0
and 8) and implicit registers (wire class 2) -/
def libccpAccepts : Reg → Bool
  | .control _ _ _ => true
  | .implicit _ _ => true
  | _ => false

/-- the registers for which an update has an effect: control registers, `Cwnd` (implicit 4), `Rate` (implicit 5) -/
def updatable : Reg → Bool
  | .control _ _ _ => true
  | .implicit i _ => i == 4 || i == 5
  | _ => false

theorem updatable_accepts {r : Reg} (h : updatable r = true) : libccpAccepts r = true := by
  cases r <;> first | rfl | exact h

/-- one (register, value) pair written over the pending updates (`stage_update`); implicit registers other than
4 and 5 are accepted and dropped -/
def applyUpd (p : Pending) (f : Reg × Nat) : Pending :=
  match f.1 with
  | .control i _ _ => { p with control := p.control.set i (some (UInt64.ofNat f.2)) }
  | .implicit i _ =>
    if i = 4 then { p with cwnd := some (UInt64.ofNat f.2) }
    else if i = 5 then { p with rate := some (UInt64.ofNat f.2) }
    else p
  | _ => p

def applyUpds : Pending → List (Reg × Nat) → Pending
  | p, [] => p
  | p, f :: rest => applyUpds (applyUpd p f) rest

theorem stage_step (p : Pending) (r : Reg) (v : Nat) (u : Libccp.Upd) (rest : List Libccp.Upd)
    (h : r.classIdx = .ok (u.cls, u.idx)) (hv : u.val = v) :
    stageUpdates p (u :: rest) =
      if libccpAccepts r = true then stageUpdates (applyUpd p (r, v)) rest else (p, -53) := by
  obtain ⟨cls, idx, val⟩ := u
  subst hv
  cases r <;> simp only [classIdx_control, classIdx_report, classIdx_implicit, classIdx_local, classIdx_primitive,
    classIdx_tmp, classIdx_immBool, classIdx_immNum, classIdx_none] at h
  case control j t vol => obtain ⟨_, rfl, rfl⟩ := h; cases vol <;> simp [stageUpdates, libccpAccepts, applyUpd]
  case report j t vol => obtain ⟨_, rfl, rfl⟩ := h; cases vol <;> simp [stageUpdates, libccpAccepts]
  case implicit j t =>
    obtain ⟨_, rfl, rfl⟩ := h
    simp only [stageUpdates, libccpAccepts, applyUpd]
    by_cases h4 : idx = 4
    · subst h4; simp
    · by_cases h5 : idx = 5
      · subst h5; simp
      · simp [h4, h5]
  case immBool b => obtain ⟨rfl, rfl⟩ := h; simp [stageUpdates, libccpAccepts]
  -- immediates, locals, primitives, temporaries: a class libccp refuses
  all_goals obtain ⟨_, rfl, rfl⟩ := h; simp [stageUpdates, libccpAccepts]

/-- `stage_multiple_updates` on portus' records: the pairs up to the first register libccp refuses are written in
order; -53 is `LIBCCP_UPDATE_INVALID_REG_TYPE` -/
theorem stageUpdates_spec : ∀ (fs : List (Reg × Nat)) (us : List Libccp.Upd) (p : Pending), updsMatch fs us →
    stageUpdates p us =
      (applyUpds p (fs.takeWhile fun f => libccpAccepts f.1),
        if fs.all (fun f => libccpAccepts f.1) = true then 0 else -53)
  | [], [], p, _ => rfl
  | [], _ :: _, _, h => by simp only [updsMatch] at h
  | _ :: _, [], _, h => by simp only [updsMatch] at h
  | (r, v) :: ps, u :: us, p, h => by
    simp only [updsMatch] at h
    rw [stage_step p r v u us h.1 h.2.1]
    by_cases ha : libccpAccepts r = true
    · rw [if_pos ha, stageUpdates_spec ps us _ h.2.2]
      simp only [List.takeWhile_cons, ha, List.all_cons, Bool.true_and, applyUpds, if_true]
    · rw [if_neg ha]
      simp only [Bool.not_eq_true] at ha
      simp only [List.takeWhile_cons, ha, List.all_cons, Bool.false_and]
      rfl

theorem takeWhile_accepts {fs : List (Reg × Nat)} (h : ∀ f ∈ fs, updatable f.1 = true) :
    fs.takeWhile (fun f => libccpAccepts f.1) = fs ∧ fs.all (fun f => libccpAccepts f.1) = true := by
  have ha : ∀ f ∈ fs, libccpAccepts f.1 = true := fun f hf => updatable_accepts (h f hf)
  exact ⟨by simpa using List.takeWhile_append_of_pos (l₂ := []) ha, List.all_eq_true.mpr ha⟩

theorem stageRc_spec (x : Pending) (b : Bool) : stageRc (x, if b = true then 0 else -53) = if b = true then 0 else -53 := by
  cases b <;> rfl

/-- `ccp_read_msg` on portus' update-fields message (flow exists, at most 127 records) is `stageUpdates_spec` on the
flow's pending updates; nothing else in the datapath changes (`setConn`) -/
theorem updatefield_acts (dp : Dp) (c : Conn) (m : UpdateField) (bytes : Bytes) (hb : builtUF m)
    (hc : getConn dp m.sid = some c) (h : serializeUpdateField m = .ok bytes) (hl : m.fields.length ≤ 127) :
    readMsg dp bytes =
      (setConn dp m.sid
          { c with pending := applyUpds c.pending (m.fields.takeWhile fun f => libccpAccepts f.1) },
        if m.fields.all (fun f => libccpAccepts f.1) = true then 0 else -53) := by
  obtain ⟨_, _, _, us, hr, hm⟩ := updatefield_read_by_libccp m bytes hb h hl
  rw [readMsg_of_libccp_uf dp bytes m.sid us c hr hc, stageUpdates_spec m.fields us c.pending hm, stageRc_spec]

/-- **(a) libccp accepts portus' update-fields message and stages it.** For a flow that exists and a message the
library built for it (`builtUF`: count = number of pairs, 32-bit flow id, 64-bit values) with at most 127 pairs, all
naming control registers, `Cwnd` or `Rate`: `ccp_read_msg` returns 0 and the flow's pending updates are the old
ones overwritten in message order by exactly the message's pairs. -/
theorem updatefield_staged (dp : Dp) (sid : Nat) (c : Conn) (m : UpdateField) (bytes : Bytes)
    (hb : builtUF m) (hsid : m.sid = sid) (hc : getConn dp sid = some c)
    (h : serializeUpdateField m = .ok bytes) (hl : m.fields.length ≤ 127)
    (hu : ∀ f ∈ m.fields, updatable f.1 = true) :
    readMsg dp bytes = (setConn dp sid { c with pending := applyUpds c.pending m.fields }, 0) ∧
    getConn (readMsg dp bytes).1 sid = some { c with pending := applyUpds c.pending m.fields } := by
  subst hsid
  obtain ⟨a1, a2⟩ := takeWhile_accepts hu
  have e := updatefield_acts dp c m bytes hb hc h hl
  rw [a1, a2] at e
  refine ⟨e, ?_⟩
  rw [e]
  exact getConn_setConn dp m.sid c _ hc

/-- `ccp_read_msg` on portus' change-program message (flow exists, at most 222 records). Known uid: the program
index is staged and the pending updates are *replaced* (libccp clears them first) by the pairs up to the first
refused register -/
theorem changeprog_acts (dp : Dp) (c : Conn) (m : ChangeProg) (bytes : Bytes) (hb : builtCP m)
    (hc : getConn dp m.sid = some c) (h : serializeChangeProg m = .ok bytes) (hl : m.fields.length ≤ 222) :
    readMsg dp bytes =
      match lookupUid dp m.uid with
      | none => (dp, 8)
      | some idx =>
        (setConn dp m.sid
            { c with staged := some idx,
                     pending := applyUpds Pending.none (m.fields.takeWhile fun f => libccpAccepts f.1) },
          if m.fields.all (fun f => libccpAccepts f.1) = true then 0 else -53) := by
  obtain ⟨_, _, _, us, hr, hm⟩ := changeprog_read_by_libccp m bytes hb h hl
  rw [readMsg_of_libccp_cp dp bytes m.sid m.uid us c hr hc, stageUpdates_spec m.fields us Pending.none hm,
    stageRc_spec]

/-- **(b) libccp accepts portus' change-program message and stages program and fields.** The uid resolves to
`idx`: `ccp_read_msg` returns 0, stages `idx`, and the pending updates are `Pending.none` overwritten by exactly
the message's pairs. -/
theorem changeprog_staged (dp : Dp) (sid idx : Nat) (c : Conn) (m : ChangeProg) (bytes : Bytes)
    (hb : builtCP m) (hsid : m.sid = sid) (hc : getConn dp sid = some c)
    (h : serializeChangeProg m = .ok bytes) (hl : m.fields.length ≤ 222)
    (hu : ∀ f ∈ m.fields, updatable f.1 = true) (hidx : lookupUid dp m.uid = some idx) :
    readMsg dp bytes =
      (setConn dp sid { c with staged := some idx, pending := applyUpds Pending.none m.fields }, 0) ∧
    getConn (readMsg dp bytes).1 sid =
      some { c with staged := some idx, pending := applyUpds Pending.none m.fields } := by
  subst hsid
  obtain ⟨a1, a2⟩ := takeWhile_accepts hu
  have e := changeprog_acts dp c m bytes hb hc h hl
  rw [hidx, a1, a2] at e
  refine ⟨e, ?_⟩
  rw [e]
  exact getConn_setConn dp m.sid c _ hc

theorem changeprog_unknown_uid (dp : Dp) (sid : Nat) (c : Conn) (m : ChangeProg) (bytes : Bytes)
    (hb : builtCP m) (hsid : m.sid = sid) (hc : getConn dp sid = some c)
    (h : serializeChangeProg m = .ok bytes) (hl : m.fields.length ≤ 222)
    (hidx : lookupUid dp m.uid = none) :
    readMsg dp bytes = (dp, 8) := by
  subst hsid
  rw [changeprog_acts dp c m bytes hb hc h hl, hidx]

/-- **(c) pending updates are applied before the program runs.** No program switch staged, program installed:
`ccp_invoke` is the state machine started with `Cwnd`/`Rate` loaded from the primitives and then the pending
updates written over control registers, `Cwnd` and `Rate` (in this order, as in `ccp_invoke`), from the observation
that carries the `set_cwnd`/`set_rate_abs` calls for a pending non-zero `Cwnd`/`Rate`; nothing is pending afterwards. -/
theorem pending_applied (dp : Dp) (sid : Nat) (p : Program) (c : Conn) (now : Val) (prims : Prims)
    (hc : getConn dp sid = some c) (hst : c.staged = none) (hp : lookupIndex dp c.programIndex = some p) :
    invoke dp sid now prims =
      some (setConn dp sid
          (stateMachine ⟨now, 0, prims⟩ p (applyPending (loadPrims c prims)) (preObs c.pending)).1,
        (stateMachine ⟨now, 0, prims⟩ p (applyPending (loadPrims c prims)) (preObs c.pending)).2) ∧
    ∀ dp' o, invoke dp sid now prims = some (dp', o) →
      ∃ c', getConn dp' sid = some c' ∧ c'.pending = Pending.none ∧ c'.staged = none := by
  have hp' : lookupIndex dp (loadPrims c prims).programIndex = some p := hp
  have e := invoke_eq dp sid now prims c hc
  rw [switched_none (c := loadPrims c prims) hst] at e
  simp only [hp'] at e
  refine ⟨e, ?_⟩
  intro dp' o h
  rw [e] at h
  cases h
  have k := stateMachine_keep ⟨now, 0, prims⟩ p (applyPending (loadPrims c prims)) (preObs c.pending)
  exact ⟨_, getConn_setConn dp sid c _ hc, k.pend, k.st.trans hst⟩

/-- the value of the last pair whose register satisfies `sel` -/
def lastOf (sel : Reg → Bool) : List (Reg × Nat) → Option Nat
  | [] => none
  | f :: rest =>
    match lastOf sel rest with
    | some w => some w
    | none => if sel f.1 = true then some f.2 else none

def namesCtl (k : Nat) : Reg → Bool
  | .control i _ _ => i == k
  | _ => false

def isCwnd : Reg → Bool
  | .implicit i _ => i == 4
  | _ => false

def isRate : Reg → Bool
  | .implicit i _ => i == 5
  | _ => false

/-- **later entries win**, for any component `π` of the pending updates that a pair selected by `sel` overwrites
with `val` of its value and every other pair leaves alone (`I`: what the overwriting needs of the updates so far) -/
theorem applyUpds_lastOf {α : Type} (π : Pending → α) (sel : Reg → Bool) (val : Nat → α) (I : Pending → Prop)
    (hI : ∀ p f, I p → I (applyUpd p f))
    (h : ∀ p f, I p → π (applyUpd p f) = if sel f.1 = true then val f.2 else π p) :
    ∀ (fs : List (Reg × Nat)) (p : Pending), I p →
      π (applyUpds p fs) = match lastOf sel fs with | some v => val v | none => π p
  | [], _, _ => rfl
  | f :: fs, p, hp => by
    rw [applyUpds, applyUpds_lastOf π sel val I hI h fs (applyUpd p f) (hI p f hp)]
    simp only [lastOf]
    cases lastOf sel fs with
    | some w => rfl
    | none =>
      simp only
      rw [h p f hp]
      split <;> rfl

theorem applyUpd_control_length (p : Pending) (f : Reg × Nat) :
    (applyUpd p f).control.length = p.control.length := by
  obtain ⟨r, v⟩ := f
  cases r with
  | control i t vol => exact List.length_set
  | implicit i t =>
    simp only [applyUpd]
    split
    · rfl
    · split <;> rfl
  | _ => rfl

theorem applyUpds_control_length : ∀ (fs : List (Reg × Nat)) (p : Pending),
    (applyUpds p fs).control.length = p.control.length
  | [], _ => rfl
  | f :: fs, p => by
    rw [applyUpds, applyUpds_control_length fs, applyUpd_control_length]

theorem applyUpd_control_getD (p : Pending) (f : Reg × Nat) (k : Nat) (hk : k < p.control.length) :
    (applyUpd p f).control.getD k none =
      if namesCtl k f.1 = true then some (UInt64.ofNat f.2) else p.control.getD k none := by
  obtain ⟨r, v⟩ := f
  cases r with
  | control i t vol =>
    simp only [applyUpd, namesCtl, beq_iff_eq]
    by_cases hik : i = k
    · subst hik
      rw [if_pos rfl, List.getD_eq_getElem?_getD, List.getElem?_set_self hk]
      rfl
    · rw [if_neg hik, List.getD_eq_getElem?_getD, List.getD_eq_getElem?_getD, List.getElem?_set_ne hik]
  | implicit i t =>
    simp only [applyUpd, namesCtl]
    split
    · rfl
    · split <;> rfl
  | _ => rfl

theorem applyUpds_control_getD (fs : List (Reg × Nat)) (p : Pending) (k : Nat) (hk : k < p.control.length) :
    (applyUpds p fs).control.getD k none =
      match lastOf (namesCtl k) fs with
      | some v => some (UInt64.ofNat v)
      | none => p.control.getD k none :=
  applyUpds_lastOf (·.control.getD k none) (namesCtl k) (fun v => some (UInt64.ofNat v)) (k < ·.control.length)
    (fun p f hp => by rw [applyUpd_control_length]; exact hp) (fun p f hp => applyUpd_control_getD p f k hp)
    fs p hk

theorem applyUpd_cwnd_rate (p : Pending) (f : Reg × Nat) :
    (applyUpd p f).cwnd = (if isCwnd f.1 = true then some (UInt64.ofNat f.2) else p.cwnd) ∧
    (applyUpd p f).rate = (if isRate f.1 = true then some (UInt64.ofNat f.2) else p.rate) := by
  obtain ⟨r, v⟩ := f
  cases r with
  | implicit i t =>
    simp only [applyUpd, isCwnd, isRate, beq_iff_eq]
    by_cases h4 : i = 4
    · subst h4; exact ⟨rfl, rfl⟩
    · rw [if_neg h4, if_neg h4]
      by_cases h5 : i = 5
      · subst h5; exact ⟨rfl, rfl⟩
      · rw [if_neg h5, if_neg h5]; exact ⟨rfl, rfl⟩
  | _ => exact ⟨rfl, rfl⟩

theorem applyUpds_cwnd : ∀ (fs : List (Reg × Nat)) (p : Pending),
    (applyUpds p fs).cwnd =
      match lastOf isCwnd fs with
      | some v => some (UInt64.ofNat v)
      | none => p.cwnd := fun fs p =>
  applyUpds_lastOf (·.cwnd) isCwnd (fun v => some (UInt64.ofNat v)) (fun _ => True) (fun _ _ _ => trivial)
    (fun p f _ => (applyUpd_cwnd_rate p f).1) fs p trivial

theorem applyUpds_rate : ∀ (fs : List (Reg × Nat)) (p : Pending),
    (applyUpds p fs).rate =
      match lastOf isRate fs with
      | some v => some (UInt64.ofNat v)
      | none => p.rate := fun fs p =>
  applyUpds_lastOf (·.rate) isRate (fun v => some (UInt64.ofNat v)) (fun _ => True) (fun _ _ _ => trivial)
    (fun p f _ => (applyUpd_cwnd_rate p f).2) fs p trivial

theorem overlayCtl_getD (ctl : List Val) (pc : List (Option Val)) (k : Nat) (h1 : k < ctl.length) (h2 : k < pc.length) :
    (overlayCtl ctl pc).getD k 0 = match pc.getD k none with | some v => v | none => ctl.getD k 0 := by
  simp only [overlayCtl, List.getD_eq_getElem?_getD, List.getElem?_map, List.getElem?_eq_getElem h1,
    List.getElem?_eq_getElem h2, List.zip_eq_zipWith, List.getElem?_zipWith, Option.getD_some, Option.map_some]
  rfl

/-- a control register named in a message that serializes has index at most 15 (`Reg::into_iter` refuses more) -/
theorem ctl_index_le_15' : ∀ {fs : List (Reg × Nat)} {ub : Bytes}, serializeUpdates fs = .ok ub →
    ∀ {k v : Nat}, lastOf (namesCtl k) fs = some v → k ≤ 15
  | [], _, _, _, _, h => by cases h
  | (r, w) :: ps, _, hub, k, v, h => by
    simp only [serializeUpdates, Out.bind_eq_ok, Reg.serialize_eq_ok] at hub
    obtain ⟨_, ⟨c, i, hci, _⟩, tail, ht, _⟩ := hub
    simp only [lastOf] at h
    cases hl : lastOf (namesCtl k) ps with
    | some w' => exact ctl_index_le_15' ht hl
    | none =>
      rw [hl] at h
      cases r with
      | control j t vol =>
        simp only [namesCtl, beq_iff_eq] at h
        split at h
        · rename_i hj; subst hj; exact (classIdx_control.mp hci).1
        · cases h
      | _ => cases h

theorem ctl_index_le_15 {m : UpdateField} {bytes : Bytes} (h : serializeUpdateField m = .ok bytes) {k v : Nat}
    (hlast : lastOf (namesCtl k) m.fields = some v) : k ≤ 15 := by
  obtain ⟨_, ub, hub, _⟩ := serializeUpdateField_eq_ok.mp h
  exact ctl_index_le_15' hub hlast

/-- the state the state machine starts from at the first invocation after an update-fields message with pairs `fs` -/
def afterUpdate (c : Conn) (fs : List (Reg × Nat)) (prims : Prims) : Conn :=
  applyPending (loadPrims { c with pending := applyUpds c.pending fs } prims)

/-- **(d) an update takes effect at the next invocation.** After portus' update-fields message has been read
by libccp (return code 0), the next `ccp_invoke` of the flow runs the program from a state in which control
register `k` — read through either class, 0 or 8 — holds the value `v` of the message's last pair naming it.
`k` must exist in both register files (both have 110 entries in every state the model reaches; `k ≤ 15` follows
from the message having serialized). -/
theorem update_takes_effect (dp : Dp) (sid : Nat) (c : Conn) (m : UpdateField) (bytes : Bytes) (p : Program)
    (k v : Nat) (now : Val) (prims : Prims)
    (hb : builtUF m) (hsid : m.sid = sid) (hc : getConn dp sid = some c)
    (h : serializeUpdateField m = .ok bytes) (hl : m.fields.length ≤ 127)
    (hu : ∀ f ∈ m.fields, updatable f.1 = true)
    (hst : c.staged = none) (hp : lookupIndex dp c.programIndex = some p)
    (hk1 : k < c.regs.control.length) (hk2 : k < c.pending.control.length)
    (hlast : lastOf (namesCtl k) m.fields = some v) :
    ∃ dp', readMsg dp bytes = (dp', 0) ∧
      invoke dp' sid now prims =
        some (setConn dp' sid
            (stateMachine ⟨now, 0, prims⟩ p (afterUpdate c m.fields prims) (preObs (applyUpds c.pending m.fields))).1,
          (stateMachine ⟨now, 0, prims⟩ p (afterUpdate c m.fields prims) (preObs (applyUpds c.pending m.fields))).2) ∧
      readReg ⟨now, 0, prims⟩ (afterUpdate c m.fields prims) ⟨0, k⟩ = UInt64.ofNat v ∧
      readReg ⟨now, 0, prims⟩ (afterUpdate c m.fields prims) ⟨8, k⟩ = UInt64.ofNat v := by
  obtain ⟨e, hg⟩ := updatefield_staged dp sid c m bytes hb hsid hc h hl hu
  rw [e] at hg
  refine ⟨_, e, ?_, ?_⟩
  · exact (pending_applied _ sid p { c with pending := applyUpds c.pending m.fields } now prims hg hst hp).1
  · have hv : (afterUpdate c m.fields prims).regs.control.getD k 0 = UInt64.ofNat v := by
      show (overlayCtl c.regs.control (applyUpds c.pending m.fields).control).getD k 0 = _
      rw [overlayCtl_getD _ _ k hk1 (by rw [applyUpds_control_length]; exact hk2),
        applyUpds_control_getD m.fields c.pending k hk2, hlast]
    exact ⟨hv, hv⟩

/-- (d) for the one-pair message of `Datapath::update_field(&[(name, v)])` -/
theorem update_control_takes_effect (dp : Dp) (sid : Nat) (c : Conn) (k v : Nat) (t : Ty) (vol : Bool)
    (bytes : Bytes) (p : Program) (now : Val) (prims : Prims)
    (hsid : sid < 2^32) (hv : v < 2^64) (hc : getConn dp sid = some c)
    (h : serializeUpdateField ⟨sid, 1, [(.control k t vol, v)]⟩ = .ok bytes)
    (hst : c.staged = none) (hp : lookupIndex dp c.programIndex = some p)
    (hk1 : k < c.regs.control.length) (hk2 : k < c.pending.control.length) :
    ∃ dp' c1 o1, readMsg dp bytes = (dp', 0) ∧
      invoke dp' sid now prims =
        some (setConn dp' sid (stateMachine ⟨now, 0, prims⟩ p c1 o1).1, (stateMachine ⟨now, 0, prims⟩ p c1 o1).2) ∧
      readReg ⟨now, 0, prims⟩ c1 ⟨if vol then 8 else 0, k⟩ = UInt64.ofNat v ∧ (UInt64.ofNat v).toNat = v := by
  have hlast : lastOf (namesCtl k) [(Reg.control k t vol, v)] = some v := by
    simp only [lastOf, namesCtl, beq_self_eq_true, if_true]
  obtain ⟨dp', e1, e2, e3, e4⟩ := update_takes_effect dp sid c ⟨sid, 1, [(.control k t vol, v)]⟩ bytes p k v now prims
    ⟨rfl, hsid, List.forall_mem_singleton.mpr hv⟩ rfl hc h (by simp)
    (List.forall_mem_singleton.mpr rfl) hst hp hk1 hk2 hlast
  refine ⟨dp', _, _, e1, e2, ?_, ?_⟩
  · cases vol
    · exact e3
    · exact e4
  · rw [UInt64.toNat_ofNat']; omega

/-- **(c) with a staged program switch**: `ccp_invoke` first switches to the staged program (`switched`: DEF
initialisation of the new program's registers) and then applies the pending updates — so the fields of a
change-program message override the new program's DEF values — and runs the new program. -/
theorem pending_applied_switch (dp : Dp) (sid idx : Nat) (p : Program) (c : Conn) (now : Val) (prims : Prims)
    (hc : getConn dp sid = some c) (hst : c.staged = some idx) (hp : lookupIndex dp idx = some p) :
    invoke dp sid now prims =
      some (setConn dp sid
          (stateMachine ⟨now, 0, prims⟩ p
            (applyPending (switched dp ⟨now, 0, prims⟩ now (loadPrims c prims))) (preObs c.pending)).1,
        (stateMachine ⟨now, 0, prims⟩ p
            (applyPending (switched dp ⟨now, 0, prims⟩ now (loadPrims c prims))) (preObs c.pending)).2) := by
  obtain ⟨f1, f2, _, _⟩ := switched_frame dp ⟨now, 0, prims⟩ now (loadPrims c prims) idx p hst hp
  have hp' : lookupIndex dp (switched dp ⟨now, 0, prims⟩ now (loadPrims c prims)).programIndex = some p := by
    rw [f2]; exact hp
  have f1' : (switched dp ⟨now, 0, prims⟩ now (loadPrims c prims)).pending = c.pending := f1
  rw [invoke_eq dp sid now prims c hc]
  simp only [hp', f1']

/-- **(d) for change-program**: the next `ccp_invoke` runs the program the message names from a state in which
control register `k` holds the value of the message's last pair naming it — whatever the program's DEF said. -/
theorem changeprog_takes_effect (dp : Dp) (sid idx : Nat) (c : Conn) (m : ChangeProg) (bytes : Bytes) (p : Program)
    (k v : Nat) (now : Val) (prims : Prims)
    (hb : builtCP m) (hsid : m.sid = sid) (hc : getConn dp sid = some c)
    (h : serializeChangeProg m = .ok bytes) (hl : m.fields.length ≤ 222)
    (hu : ∀ f ∈ m.fields, updatable f.1 = true)
    (hidx : lookupUid dp m.uid = some idx) (hp : lookupIndex dp idx = some p)
    (hk1 : k < c.regs.control.length)
    (hlast : lastOf (namesCtl k) m.fields = some v) :
    ∃ dp' c1 o1, readMsg dp bytes = (dp', 0) ∧
      invoke dp' sid now prims =
        some (setConn dp' sid (stateMachine ⟨now, 0, prims⟩ p c1 o1).1, (stateMachine ⟨now, 0, prims⟩ p c1 o1).2) ∧
      c1.programIndex = idx ∧ c1.pending = Pending.none ∧
      readReg ⟨now, 0, prims⟩ c1 ⟨0, k⟩ = UInt64.ofNat v ∧ readReg ⟨now, 0, prims⟩ c1 ⟨8, k⟩ = UInt64.ofNat v := by
  obtain ⟨e, hg⟩ := changeprog_staged dp sid idx c m bytes hb hsid hc h hl hu hidx
  rw [e] at hg
  obtain ⟨_, ub, hub, _⟩ := serializeChangeProg_eq_ok.mp h
  have hk15 := ctl_index_le_15' hub hlast
  generalize hc2 : ({ c with staged := some idx, pending := applyUpds Pending.none m.fields } : Conn) = c2 at hg e
  have hc2s : c2.staged = some idx := by rw [← hc2]
  have hc2p : c2.pending = applyUpds Pending.none m.fields := by rw [← hc2]
  have hc2l : c2.regs.control.length = c.regs.control.length := by rw [← hc2]
  have hp' : lookupIndex (setConn dp sid c2) idx = some p := hp
  obtain ⟨f1, f2, _, f4⟩ := switched_frame (setConn dp sid c2) ⟨now, 0, prims⟩ now (loadPrims c2 prims) idx p hc2s hp'
  refine ⟨_, _, _, e, pending_applied_switch _ sid idx p c2 now prims hg hc2s hp', f2, rfl, ?_⟩
  generalize switched (setConn dp sid c2) ⟨now, 0, prims⟩ now (loadPrims c2 prims) = cs at f1 f4 ⊢
  have f1' : cs.pending = applyUpds Pending.none m.fields := f1.trans hc2p
  have f4' : cs.regs.control.length = c.regs.control.length := f4.trans hc2l
  have hlen : (applyUpds Pending.none m.fields).control.length = 110 := by
    rw [applyUpds_control_length]; exact List.length_replicate ..
  have hv : (applyPending cs).regs.control.getD k 0 = UInt64.ofNat v := by
    show (overlayCtl _ _).getD k 0 = _
    rw [overlayCtl_getD _ _ k (by rw [f4']; exact hk1) (by rw [f1', hlen]; omega), f1',
      applyUpds_control_getD m.fields Pending.none k (by show k < (List.replicate 110 _).length; rw [List.length_replicate]; omega),
      hlast]
  exact ⟨hv, hv⟩

/-- **finding 1.** libccp reads the count with `(u32)*buf` on a `char *`: a count of 128..255 becomes
`0xFFFFFF80..0xFFFFFFFF`, fails `num_updates > MAX_MUTABLE_REG`, and the message is refused with -52
(`LIBCCP_UPDATE_TOO_MANY`). Change-program reads its count as a `u32`. -/
theorem updatefield_over_127_refused (dp : Dp) (c : Conn) (m : UpdateField) (bytes : Bytes) (hb : builtUF m)
    (hc : getConn dp m.sid = some c) (h : serializeUpdateField m = .ok bytes)
    (hl : 128 ≤ m.fields.length) (hl' : m.fields.length ≤ 255) :
    readMsg dp bytes = (dp, -52) ∧ Libccp.readMsg bytes = none := by
  obtain ⟨hn, hs, hv⟩ := hb
  have hlen := serializeUpdateField_length h hv
  obtain ⟨hfit, ub, hub, rfl⟩ := serializeUpdateField_eq_ok.mp h
  have m1 : (8 + 4 + m.fields.length * 13) % 65536 = 12 + 13 * m.fields.length := by omega
  have m2 : m.fields.length % 256 = m.fields.length := by omega
  have m3 : m.sid % 4294967296 = m.sid := by omega
  have hsb : Libccp.signedByteAsU32 m.fields.length > 222 := by
    simp only [Libccp.signedByteAsU32]; rw [if_neg (by omega)]; omega
  simp only [hn, UPDATE_FIELD] at hlen ⊢
  constructor
  · apply readMsg_uf_too_many dp _ c <;> simp only [wire, m1, m2, m3, hlen]
    · omega
    · omega
    · exact hc
    · exact hsb
  · rw [List.length_append, serializeHeader_length] at hlen
    rw [Libccp.readMsg_frame _ _ _ _ (by decide) hs (by omega) (by omega)]
    simp only [wire, m2]
    rw [if_pos hsb]

def exProg : Program := { uid := 7, exprs := [], instrs := [], numToReturn := 0 }

/-- flow 1 runs `exProg`; control register 3 holds 1 and an update of control register 0 is already pending -/
def exConn : Conn :=
  { newConn with programIndex := 1,
                 regs := { Regs.zero with control := Regs.zero.control.set 3 1 },
                 pending := { Pending.none with control := Pending.none.control.set 0 (some 77) } }

def exDp : Dp :=
  { programs := (1, exProg) :: List.replicate 9 (0, emptyProgram), conns := [some exConn, none, none, none] }

/-- "control 3 := 5, Cwnd := 10" for flow 1 -/
def exMsg : UpdateField := ⟨1, 2, [(.control 3 .none false, 5), (.implicit 4 .none, 10)]⟩

def exBytes : Bytes :=
  [3,0, 38,0, 1,0,0,0, 2,0,0,0, 0, 3,0,0,0, 5,0,0,0,0,0,0,0, 2, 4,0,0,0, 10,0,0,0,0,0,0,0]

theorem exMsg_bytes : serializeUpdateField exMsg = .ok exBytes := by decide
theorem exMsg_built : builtUF exMsg := ⟨rfl, by decide, by decide⟩
theorem exConn_get : getConn exDp 1 = some exConn := by decide

example : readMsg exDp exBytes = (setConn exDp 1 { exConn with pending := applyUpds exConn.pending exMsg.fields }, 0) :=
  (updatefield_staged exDp 1 exConn exMsg exBytes exMsg_built rfl exConn_get exMsg_bytes (by decide) (by decide)).1

example : (readMsg exDp exBytes).2 = 0 ∧
    ((getConn (readMsg exDp exBytes).1 1).map fun c =>
      (c.pending.control.getD 0 none, c.pending.control.getD 3 none, c.pending.cwnd, c.pending.rate, c.regs == exConn.regs))
    = some (some 77, some 5, some 10, none, true) := by decide +kernel

/-- (c)/(d) on the example: the next invocation runs with control 0 = 77 (pending before), control 3 = 5, calls
`set_cwnd(10)` (`Rate` keeps the 30 loaded from the primitives), and leaves nothing pending -/
example :
    ((invoke (readMsg exDp exBytes).1 1 100 ⟨List.replicate 15 0, 20, 30⟩).map fun r =>
      (r.2, (getConn r.1 1).map fun c => (c.regs.control.getD 0 0, c.regs.control.getD 3 0, c.regs.impl.getD 4 0)))
    = some (⟨0, some 10, some 30, none⟩, some (77, 5, 10)) ∧
    ((invoke (readMsg exDp exBytes).1 1 100 ⟨List.replicate 15 0, 20, 30⟩).map fun r =>
      (getConn r.1 1).map fun c => (c.regs.impl.getD 5 0, c.pending))
    = some (some (30, Pending.none)) := by decide +kernel

example : ∃ dp' c1 o1, readMsg exDp exBytes = (dp', 0) ∧
    invoke dp' 1 100 ⟨[], 20, 30⟩ =
      some (setConn dp' 1 (stateMachine ⟨100, 0, ⟨[], 20, 30⟩⟩ exProg c1 o1).1,
        (stateMachine ⟨100, 0, ⟨[], 20, 30⟩⟩ exProg c1 o1).2) ∧
    readReg ⟨100, 0, ⟨[], 20, 30⟩⟩ c1 ⟨0, 3⟩ = 5 := by
  obtain ⟨dp', e1, e2, e3, _⟩ := update_takes_effect exDp 1 exConn exMsg exBytes exProg 3 5 100 ⟨[], 20, 30⟩
    exMsg_built rfl exConn_get exMsg_bytes (by decide) (by decide) rfl (by decide) (by decide) (by decide) (by decide)
  exact ⟨dp', _, _, e1, e2, e3⟩

/-- "program 7 with control 3 := 5, Cwnd := 10" for flow 1 -/
def exCP : ChangeProg := ⟨1, 7, 2, [(.control 3 .none false, 5), (.implicit 4 .none, 10)]⟩

def exCPBytes : Bytes :=
  [4,0,42,0, 1,0,0,0, 7,0,0,0, 2,0,0,0, 0,3,0,0,0, 5,0,0,0,0,0,0,0, 2,4,0,0,0, 10,0,0,0,0,0,0,0]

theorem exCP_bytes : serializeChangeProg exCP = .ok exCPBytes := by decide
theorem exCP_built : builtCP exCP := ⟨rfl, by decide, by decide, by decide⟩

example : readMsg exDp exCPBytes =
    (setConn exDp 1 { exConn with staged := some 1, pending := applyUpds Pending.none exCP.fields }, 0) :=
  (changeprog_staged exDp 1 1 exConn exCP exCPBytes exCP_built rfl exConn_get exCP_bytes (by decide) (by decide)
    (by decide)).1

example : (readMsg exDp exCPBytes).2 = 0 ∧
    ((getConn (readMsg exDp exCPBytes).1 1).map fun c =>
      (c.staged, c.pending.control.getD 0 none, c.pending.control.getD 3 none, c.pending.cwnd))
    = some (some 1, none, some 5, some 10) := by decide +kernel

/-- finding 5: uid 9 is not installed -/
example : (readMsg exDp [4,0,16,0, 1,0,0,0, 9,0,0,0, 0,0,0,0]).2 = 8 ∧
    getConn (readMsg exDp [4,0,16,0, 1,0,0,0, 9,0,0,0, 0,0,0,0]).1 1 = some exConn := by decide +kernel

/-- finding 1: 128 pairs -/
example :
    (match serializeUpdateField ⟨1, 128, List.replicate 128 (.control 3 .none false, 5)⟩ with
     | .ok b => decide ((readMsg exDp b).2 = -52 ∧ getConn (readMsg exDp b).1 1 = some exConn ∧ Libccp.readMsg b = none)
     | _ => false) = true := by decide +kernel

/-- 127 pairs are taken -/
example :
    (match serializeUpdateField ⟨1, 127, List.replicate 127 (.control 3 .none false, 5)⟩ with
     | .ok b => decide ((readMsg exDp b).2 = 0)
     | _ => false) = true := by decide +kernel

/-- finding 2 in an update-fields message: a report register in the middle -/
example :
    (match serializeUpdateField ⟨1, 3, [(.control 3 .none false, 5), (.report 0 .none false, 7), (.control 4 .none false, 9)]⟩ with
     | .ok b => decide ((readMsg exDp b).2 = -53 ∧
         ((getConn (readMsg exDp b).1 1).map fun c => (c.pending.control.getD 3 none, c.pending.control.getD 4 none))
           = some (some 5, none))
     | _ => false) = true := by decide +kernel

/-- finding 2 in a change-program message -/
example :
    (match serializeChangeProg ⟨1, 7, 1, [(.report 0 .none false, 7)]⟩ with
     | .ok b => decide ((readMsg exDp b).2 = -53 ∧ (getConn (readMsg exDp b).1 1).map (·.staged) = some (some 1))
     | _ => false) = true := by decide +kernel

/-- finding 3: implicit register 2 ("should report") -/
example :
    (match serializeUpdateField ⟨1, 1, [(.implicit 2 .none, 1)]⟩ with
     | .ok b => decide ((readMsg exDp b).2 = 0 ∧ getConn (readMsg exDp b).1 1 = some exConn)
     | _ => false) = true := by decide +kernel

/-- finding 4: an update-fields message, then a change-program message, before any invocation -/
example :
    ((getConn (readMsg (readMsg exDp exBytes).1 [4,0,16,0, 1,0,0,0, 7,0,0,0, 0,0,0,0]).1 1).map fun c =>
      (c.staged, c.pending)) = some (some 1, Pending.none) := by decide +kernel

/-- remark: libccp resolves the flow id through a 16-bit index (`getConn`: `sid % 65536`); the theorems speak
about the flow `sid` resolves to, which for an id beyond 16 bits is another flow's state -/
example : getConn exDp 65537 = some exConn := by decide

#print axioms updatefield_staged
#print axioms updatefield_acts
#print axioms changeprog_staged
#print axioms changeprog_unknown_uid
#print axioms changeprog_acts
#print axioms pending_applied
#print axioms pending_applied_switch
#print axioms update_takes_effect
#print axioms update_control_takes_effect
#print axioms changeprog_takes_effect
#print axioms updatefield_over_127_refused
#print axioms stageUpdates_spec
#print axioms readMsg_of_libccp_uf
#print axioms readMsg_of_libccp_cp

end Portus.C06
