import PortusModel.Props.C02
import PortusModel.Props.C05History
/-!
# C02 over whole histories — the dispatch loop refines a flat partial map

`Props/C02` proves what one step of the dispatch loop does. This file closes the gap to the property itself,
which quantifies over every history: the callbacks the runtime makes into user code over a whole history of
(address, message) inputs are exactly those of the simplest possible specification — a flat partial map
`(datapath address, flow id) ⇀ flow number` plus a creation counter.

The specification (`Spec`, `specStep`, `specRun`) knows nothing of the two-level map, of install messages, handles,
send failures or user state. `matchesSpec` relates the per-input callback lists of the run (`C05.runHistSf`, the loop
C05's history theorem is about) to the specification's: equal for every input but possibly the last handled one, where
a failed install send ended the run with a prefix.
-/
namespace Portus.C02
open Portus Portus.Lang Portus.Wire Portus.Ipc Portus.Rt

/-- the specification's state: the flat partial map as an association list (first match wins) and the
number the next created flow gets -/
structure Spec where
  cur : List ((Addr × Nat) × Nat)
  next : Nat
deriving Repr, DecidableEq, Inhabited

def Spec.init : Spec := { cur := [], next := 1 }

def Spec.get (s : Spec) (a : Addr) (sid : Nat) : Option Nat := s.cur.lookup (a, sid)

def specStep (pick : Bytes → Nat) (s : Spec) (a : Addr) : Msg → Spec × List Ev
  | .rdy _ =>
    ({ s with cur := s.cur.filter fun p => p.1.1 ≠ a },
     (((s.cur.filter fun p => p.1.1 = a).map (·.2)).mergeSort).map Ev.dropped)
  | .cr c =>
    ({ cur := ((a, c.sid), s.next) :: s.cur.filter (fun p => p.1 ≠ (a, c.sid)), next := s.next + 1 },
     (match s.get a c.sid with | some n => [Ev.dropped n] | none => []) ++
       [.newFlow s.next (pick (c.alg.getD [])) ⟨c.sid, c.cwnd, c.mss, c.srcIp, c.srcPort, c.dstIp, c.dstPort⟩ c.sid])
  | .ms m =>
    match s.get a m.sid with
    | none => (s, [])
    | some n =>
      if m.numFields = 0 then ({ s with cur := s.cur.filter fun p => p.1 ≠ (a, m.sid) }, [.closed n, .dropped n])
      else (s, [.report n m.sid m.uid m.fields])
  | .other _ => (s, [])

def specRun (pick : Bytes → Nat) : Spec → List (Addr × Msg) → List (List Ev)
  | _, [] => []
  | s, (a, m) :: rest => (specStep pick s a m).2 :: specRun pick (specStep pick s a m).1 rest

structure Abs {σ : Type} (st : St σ) (s : Spec) : Prop where
  get : ∀ a sid, curNo st a sid = s.get a sid
  next : st.nextFlow = s.next
  nodup : (s.cur.map (·.1)).Nodup
  /-- the flows registered at an address are exactly the flat map's entries for it (needed for ready: the
  dropped flows are listed in increasing flow number on both sides). This field follows from the other three
  and the uniqueness of the runtime's keys (`perAddr_of_get`; `Abs.of_get` builds an `Abs` without it). -/
  perAddr : ∀ a, (((st.flows.lookup a).getD []).map fun p => p.2.no).mergeSort
              = ((s.cur.filter fun p => p.1.1 = a).map (·.2)).mergeSort

theorem mergeSort_eq_of_perm {l1 l2 : List Nat} (h : l1.Perm l2) : l1.mergeSort = l2.mergeSort := by
  have sorted : ∀ l : List Nat, l.mergeSort.Pairwise fun a b => decide (a ≤ b) = true := fun l =>
    List.pairwise_mergeSort (fun a b c h1 h2 => by simp only [decide_eq_true_eq] at *; omega)
      (fun a b => by simp only [Bool.or_eq_true, decide_eq_true_eq]; omega) l
  refine List.Perm.eq_of_pairwise (le := fun a b => decide (a ≤ b)) (fun a b _ _ h1 h2 => ?_) (sorted l1) (sorted l2)
    ((List.mergeSort_perm _ _).trans (h.trans (List.mergeSort_perm _ _).symm))
  simp only [decide_eq_true_eq] at h1 h2
  omega

theorem lookup_at_addr (cur : List ((Addr × Nat) × Nat)) (a : Addr) (sid : Nat) :
    ((cur.filter fun p => p.1.1 = a).map fun p => (p.1.2, p.2)).lookup sid = cur.lookup (a, sid) := by
  induction cur with
  | nil => rfl
  | cons p rest ih =>
    obtain ⟨⟨a', s'⟩, n⟩ := p
    by_cases ha : a' = a
    · subst ha
      have e : ((a', sid) == (a', s')) = (sid == s') := by
        show ((a' == a') && (sid == s')) = _
        rw [beq_self_eq_true, Bool.true_and]
      rw [List.filter_cons_of_pos (by simp)]
      simp only [List.map_cons, List.lookup_cons, ih, e]
    · have e : ((a, sid) == (a', s')) = false := by simp [Ne.symm ha]
      rw [List.filter_cons_of_neg (by simpa using ha), ih, List.lookup_cons, e]

theorem nodup_at_addr (cur : List ((Addr × Nat) × Nat)) (h : (cur.map (·.1)).Nodup) (a : Addr) :
    (((cur.filter fun p => p.1.1 = a).map fun p => (p.1.2, p.2)).map (·.1)).Nodup := by
  rw [List.map_map]
  unfold List.Nodup at h ⊢
  rw [List.pairwise_map] at h ⊢
  refine (h.filter _).imp_of_mem fun hp hq hne e => hne (Prod.ext ?_ e)
  exact (of_decide_eq_true (List.mem_filter.mp hp).2).trans (of_decide_eq_true (List.mem_filter.mp hq).2).symm

/-- two association lists with unique keys and the same lookup function are permutations of each other, and sorting
forgets the order -/
theorem perAddr_of_get {σ : Type} {st : St σ} (hw : WfSt st) {s : Spec}
    (hget : ∀ a sid, curNo st a sid = s.get a sid) (hnd : (s.cur.map (·.1)).Nodup) (a : Addr) :
    (((st.flows.lookup a).getD []).map fun p => p.2.no).mergeSort
      = ((s.cur.filter fun p => p.1.1 = a).map (·.2)).mergeSort := by
  apply mergeSort_eq_of_perm
  have hfm : ((((st.flows.lookup a).getD []).map fun p => (p.1, p.2.no)).map (·.1)).Nodup := by
    simpa [List.map_map, Function.comp_def] using hw.fm a
  have hperm : (((st.flows.lookup a).getD []).map fun p => (p.1, p.2.no)).Perm
      ((s.cur.filter fun p => p.1.1 = a).map fun p => (p.1.2, p.2)) := by
    apply Assoc.perm_of_lookup_eq hfm (nodup_at_addr s.cur hnd a)
    intro k
    rw [Assoc.lookup_map_val, lookup_at_addr, ← curNo_eq]
    exact hget a k
  have := hperm.map (·.2)
  simpa [List.map_map, Function.comp_def] using this

theorem Abs.of_get {σ : Type} {st : St σ} {s : Spec} (hw : WfSt st)
    (hget : ∀ a sid, curNo st a sid = s.get a sid) (hnext : st.nextFlow = s.next)
    (hnd : (s.cur.map (·.1)).Nodup) : Abs st s :=
  ⟨hget, hnext, hnd, perAddr_of_get hw hget hnd⟩

theorem Abs_init {σ : Type} (sf : Nat) : Abs ({ (St.init : St σ) with sendFail := sf }) Spec.init :=
  ⟨fun _ _ => rfl, rfl, List.nodup_nil, fun _ => rfl⟩

theorem Abs.applySf {σ : Type} {st : St σ} {s : Spec} (passed : List Rx) (h : Abs st s) : Abs (applySf st passed) s := by
  obtain ⟨k, e⟩ := applySf_eq st passed
  rw [e]
  exact ⟨h.get, h.next, h.nodup, h.perAddr⟩

theorem lookup_filter_addr (l : List ((Addr × Nat) × Nat)) (a a' : Addr) (sid : Nat) :
    (l.filter fun p => p.1.1 ≠ a).lookup (a', sid) = if a' = a then none else l.lookup (a', sid) :=
  (Assoc.lookup_filter_key l (·.1 ≠ a) (a', sid)).trans (ite_not ..)

theorem isPrefixOf_self (l : List Ev) : l.isPrefixOf l = true :=
  List.isPrefixOf_iff_prefix.mpr (List.prefix_refl l)

theorem step_refines {σ : Type} (cfg : Cfg) (pol : Policy σ) (hb : pol.Bounded) (st : St σ) (hw : WfSt st)
    (s : Spec) (habs : Abs st s) (addr : Addr) (msg : Msg) :
    (∃ st' evs, step cfg pol st addr msg = .ok (.cont st' evs) ∧
        evs.filter isCallback = (specStep cfg.pick s addr msg).2 ∧
        Abs st' (specStep cfg.pick s addr msg).1 ∧ WfSt st') ∨
    (∃ st' evs, step cfg pol st addr msg = .ok (.fail st' evs) ∧
        (evs.filter isCallback).isPrefixOf (specStep cfg.pick s addr msg).2 = true) := by
  cases msg with
  | other r =>
    left
    exact ⟨st, [], rfl, rfl, habs, hw⟩
  | rdy id =>
    obtain ⟨st', evs, hstep, hcb, hcur, hoth, hnf, hw'⟩ := ready_drops_only_that_address cfg pol st hw addr id
    have hev : evs.filter isCallback = (specStep cfg.pick s addr (.rdy id)).2 := by
      rw [hcb]
      simp only [specStep, dropAll]
      rw [habs.perAddr addr]
    rcases hstep with hstep | hstep
    · left
      refine ⟨st', evs, hstep, hev, Abs.of_get hw' (fun a sid => ?_) (hnf.trans habs.next)
        (Assoc.nodup_keys_filter s.cur _ habs.nodup), hw'⟩
      simp only [specStep, Spec.get]
      rw [lookup_filter_addr]
      by_cases ha : a = addr
      · subst ha
        rw [hcur sid, if_pos rfl]
      · rw [hoth a sid ha, if_neg ha]
        exact habs.get a sid
    · right
      refine ⟨st', evs, hstep, ?_⟩
      rw [hev]
      exact isPrefixOf_self _
  | cr c =>
    rcases create_one_handler cfg pol hb st hw addr c with
      ⟨st', evs, hstep, _, hcb, _⟩ | ⟨st', evs, hstep, hcb, hnew, hoth, hnf, hw'⟩
    · right
      refine ⟨st', evs, hstep, ?_⟩
      rw [hcb]
      rfl
    · left
      refine ⟨st', evs, hstep, ?_, Abs.of_get hw' (fun a sid => ?_) (by rw [hnf, habs.next]; rfl)
        (Assoc.nodup_cons_filter_ne _ _ _ habs.nodup), hw'⟩
      · rw [hcb, habs.get, habs.next]
        rfl
      · simp only [specStep, Spec.get]
        rw [Assoc.lookup_cons_filter_ne]
        by_cases hk : (a, sid) = (addr, c.sid)
        · cases hk
          rw [hnew, habs.next, if_pos rfl]
        · rw [hoth a sid hk, if_neg hk]
          exact habs.get a sid
  | ms m =>
    left
    have hg : s.get addr m.sid = (cur st addr m.sid).map (·.no) := (habs.get addr m.sid).symm
    cases hc : cur st addr m.sid with
    | none =>
      rw [hc, Option.map_none] at hg
      simp only [specStep, hg]
      exact ⟨st, [], measure_unknown_ignored cfg pol st addr m hc, rfl, habs, hw⟩
    | some f =>
      rw [hc, Option.map_some] at hg
      by_cases hn : m.numFields = 0
      · obtain ⟨st', evs, hstep, _, hcb, hnone, hoth, hnf, hw'⟩ :=
          close_once_and_forget cfg pol hb st hw addr m f hc hn
        simp only [specStep, hg, hn, if_true]
        refine ⟨st', _, hstep, ?_, Abs.of_get hw' (fun a sid => ?_) (hnf.trans habs.next)
          (Assoc.nodup_keys_filter s.cur _ habs.nodup), hw'⟩
        · simp [List.filter_cons, List.filter_append, hcb, isCallback]
        · simp only [Spec.get]
          rw [Assoc.lookup_filter_ne]
          by_cases hk : (a, sid) = (addr, m.sid)
          · cases hk
            rw [hnone, if_pos rfl]
          · rw [hoth a sid hk, if_neg hk]
            exact habs.get a sid
      · obtain ⟨st', evs, hstep, _, hcb, hsame, hnf, hw'⟩ :=
          report_delivered cfg pol hb st hw addr m f hc hn
        simp only [specStep, hg, hn, if_false]
        refine ⟨st', _, hstep, ?_,
          Abs.of_get hw' (fun a sid => (hsame a sid).trans (habs.get a sid)) (hnf.trans habs.next) habs.nodup, hw'⟩
        simp [List.filter_cons, hcb, isCallback]

/-- the run's per-input callback lists against the specification's: equal, except that the last handled
input (where a failed install send may have ended the run) may show only a prefix -/
def matchesSpec : List (List Ev) → List (List Ev) → Bool
  | [], _ => true
  | [c], s :: _ => c.isPrefixOf s
  | c :: cs, s :: ss => c == s && matchesSpec cs ss
  | _ :: _, [] => false

def callbacksOf (tr : List (Addr × Msg × List Ev)) : List (List Ev) := tr.map fun r => r.2.2.filter isCallback

theorem matchesSpec_cons_self (c : List Ev) (cs ss : List (List Ev)) (h : matchesSpec cs ss = true) :
    matchesSpec (c :: cs) (c :: ss) = true := by
  cases cs with
  | nil =>
    simp only [matchesSpec]
    exact isPrefixOf_self c
  | cons d ds =>
    simp only [matchesSpec] at h ⊢
    simp [h]

theorem history_refines_from {σ : Type} (cfg : Cfg) (pol : Policy σ) (hb : pol.Bounded) (st : St σ) (hw : WfSt st)
    (s : Spec) (habs : Abs st s) (hist : List (List Rx × Addr × Msg)) :
    matchesSpec (callbacksOf (C05.runHistSf cfg pol st hist))
      (specRun cfg.pick s (hist.map fun x => (x.2.1, x.2.2))) = true := by
  induction hist generalizing st s with
  | nil => rfl
  | cons x rest ih =>
    obtain ⟨passed, addr, msg⟩ := x
    simp only [List.map_cons, specRun]
    rcases step_refines cfg pol hb (applySf st passed) (hw.applySf passed) s (habs.applySf passed) addr msg with
      ⟨st', evs, hs, hcb, habs', hw'⟩ | ⟨st', evs, hs, hpre⟩
    · simp only [C05.runHistSf, hs, callbacksOf, List.map_cons, hcb]
      exact matchesSpec_cons_self _ _ _ (ih st' hw' _ habs')
    · simp only [C05.runHistSf, hs, callbacksOf, List.map_cons, List.map_nil, matchesSpec]
      exact hpre

/-- **C02 for every history** (send-failure script items between the inputs included): the callbacks of the run
are the specification's. -/
theorem history_refines_flat_map {σ : Type} (cfg : Cfg) (pol : Policy σ) (hb : pol.Bounded) (sf : Nat)
    (hist : List (List Rx × Addr × Msg)) :
    matchesSpec (callbacksOf (C05.runHistSf cfg pol ({ (St.init : St σ) with sendFail := sf }) hist))
      (specRun cfg.pick Spec.init (hist.map fun x => (x.2.1, x.2.2))) = true :=
  history_refines_from cfg pol hb ({ (St.init : St σ) with sendFail := sf })
    -- `WfSt` reads `flows` only, so `WfSt.init` serves for every budget
    ⟨(WfSt.init (σ := σ)).addrs, (WfSt.init (σ := σ)).sids⟩ Spec.init (Abs_init sf) hist

/-- a run that handled every input and did not end in a failure shows exactly the specification's callbacks. One more
input `extra` that is also recorded (`hlen`) is how the statement says that the last step of `hist` was a `.cont`. -/
theorem complete_run_equals_spec {σ : Type} (cfg : Cfg) (pol : Policy σ) (hb : pol.Bounded) (st : St σ) (hw : WfSt st)
    (s : Spec) (habs : Abs st s) (hist : List (List Rx × Addr × Msg)) (extra : List Rx × Addr × Msg)
    (hlen : (C05.runHistSf cfg pol st (hist ++ [extra])).length = hist.length + 1) :
    (callbacksOf (C05.runHistSf cfg pol st (hist ++ [extra]))).take hist.length
      = specRun cfg.pick s (hist.map fun x => (x.2.1, x.2.2)) := by
  induction hist generalizing st s with
  | nil => rfl
  | cons x rest ih =>
    obtain ⟨passed, addr, msg⟩ := x
    simp only [List.cons_append] at hlen ⊢
    rcases step_refines cfg pol hb (applySf st passed) (hw.applySf passed) s (habs.applySf passed) addr msg with
      ⟨st', evs, hs, hcb, habs', hw'⟩ | ⟨st', evs, hs, hpre⟩
    · simp only [C05.runHistSf, hs, List.length_cons] at hlen
      simp only [C05.runHistSf, hs, callbacksOf, List.map_cons, List.length_cons, List.take_succ_cons, specRun, hcb]
      congr 1
      exact ih st' hw' _ habs' (by omega)
    · simp only [C05.runHistSf, hs, List.length_cons, List.length_nil] at hlen
      omega

/-- in the specification the only callback of a non-empty measurement is one report, to the flow the map holds -/
theorem report_reaches_current_handler_only (pick : Bytes → Nat) (s : Spec) (a : Addr) (m : Measure) (hn : m.numFields ≠ 0) :
    (specStep pick s a (.ms m)).2 =
      (match s.get a m.sid with | some n => [Ev.report n m.sid m.uid m.fields] | none => []) ∧
    (specStep pick s a (.ms m)).1 = s := by
  cases hg : s.get a m.sid with
  | none => simp [specStep, hg]
  | some n => simp [specStep, hg, hn]

/-- after an empty measurement the flow is forgotten: whatever else arrives for other flows, later
measurements for (address, flow id) invoke nothing until a create for that pair -/
theorem closed_flow_hears_nothing (pick : Bytes → Nat) (s : Spec) (hnd : (s.cur.map (·.1)).Nodup)
    (a : Addr) (m : Measure) (hn : m.numFields = 0) :
    ((specStep pick s a (.ms m)).1).get a m.sid = none := by
  have _ := hnd -- not needed: the filter removes every entry of the pair, unique or not
  simp only [specStep]
  cases hg : s.get a m.sid with
  | none => exact hg
  | some n =>
    simp only [hn, if_true, Spec.get]
    rw [Assoc.lookup_filter_ne, if_pos rfl]

/-! ## Non-vacuity: the specification on a concrete history (two addresses, coinciding flow ids, a re-create, a close,
a report after the close, a restart) -/

def exCreate (sid : Nat) : Msg := .cr { sid := sid, cwnd := 10, mss := 1460, srcIp := 1, srcPort := 2, dstIp := 3, dstPort := 4, alg := none }
def exMeasure (sid uid : Nat) (fields : List Nat) : Msg := .ms { sid := sid, uid := uid, numFields := fields.length, fields := fields }

def exHist : List (Addr × Msg) :=
  [(5, .rdy 0), (5, exCreate 1), (6, exCreate 1), (5, exMeasure 1 7 [42]), (5, exCreate 1), (5, exMeasure 1 7 [43]),
   (5, exMeasure 1 7 []), (5, exMeasure 1 7 [44]), (6, exMeasure 1 7 [45]), (6, .rdy 0), (6, exMeasure 1 7 [46])]

example : specRun (fun _ => 0) Spec.init exHist =
    [ [], [.newFlow 1 0 ⟨1, 10, 1460, 1, 2, 3, 4⟩ 1], [.newFlow 2 0 ⟨1, 10, 1460, 1, 2, 3, 4⟩ 1], [.report 1 1 7 [42]],
      [.dropped 1, .newFlow 3 0 ⟨1, 10, 1460, 1, 2, 3, 4⟩ 1], [.report 3 1 7 [43]], [.closed 3, .dropped 3], [],
      [.report 2 1 7 [45]], [.dropped 2], [] ] := by
  decide +kernel

end Portus.C02
