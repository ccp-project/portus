import Lean.Meta.Tactic.Simp.RegisterCommand
/-- Reading a fixed-width field back from the front of what an encoder wrote, and stepping over it:
`simp only [wire]` turns `rd32 ((le32 a ++ le32 b ++ r).drop 4)` into `b % 2^32`. -/
register_simp_attr wire
