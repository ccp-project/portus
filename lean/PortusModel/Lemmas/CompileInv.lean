import PortusModel.Lemmas.Pipeline
import PortusModel.Lemmas.Ctl
import PortusModel.Lemmas.ParseInv
/-!
# Invariants of the compiler model that make every retained `panic` unreachable (C10)

* `ScInv`: what `declareAll` on a fresh scope establishes and every stage keeps, since every stage is a
  `Reach` and `Reach.fwd` / `Reach.bwd` say what that does to bindings.
* `Good`: the placeholder discipline of `compile_expr` (`Reg::None` as a result comes with a last instruction
  that waits for its target), from the atom case, the `combine` case and the three blocks.
* no stage panics; the encoder does not panic on `Instr.clean` instructions.
-/
namespace Portus.Lang
open Portus Portus.C03

structure ScInv (sc : Scope) : Prop where
  /-- `compileFlag` unwraps this lookup and writes the register -/
  flag : sc.get flagName = some flagReg
  /-- a name is never bound to the placeholder, an immediate or a temporary (`Reg::None` as an operand makes the
  encoder panic); a primitive keeps its index of `Scope::new`, which C03 states of the image -/
  regs : ∀ n r, sc.get n = some r → r.isNamed = true ∧ primOk r = true
  /-- `new_local` adds to a `u8` -/
  nl : sc.numLocal ≤ 255

theorem Reg.named_of_slot {r r' : Reg} (h : r'.slot = r.slot) :
    r'.isNamed = r.isNamed ∧ primOk r' = primOk r := by
  rw [Reg.eq_of_slot h]
  cases r <;> exact ⟨rfl, rfl⟩

theorem Reach.flag {F : Prop} {sc sc' : Scope} (h : Reach F sc sc') (hf : sc.get flagName = some flagReg) :
    sc'.get flagName = some flagReg := by
  obtain ⟨r', h1, h2⟩ := h.fwd hf
  rw [h1, Reg.slot_builtin rfl h2]

theorem Reach.scInv {F : Prop} {sc sc' : Scope} (h : Reach F sc sc') (hi : ScInv sc) : ScInv sc' := by
  refine ⟨h.flag hi.flag, fun n r' hg => ?_,
    h.preserves (I := fun s => s.numLocal ≤ 255) (fun s => s.numLocal.2) hi.nl⟩
  rcases h.bwd hg with ⟨r, h1, h2⟩ | ⟨-, h2⟩
  · rw [(Reg.named_of_slot h2).1, (Reg.named_of_slot h2).2]; exact hi.regs n r h1
  · obtain ⟨i, t, rfl⟩ := Reg.isLocal_iff.mp h2; exact ⟨rfl, rfl⟩

theorem ScInv.ne_none {sc : Scope} (hs : ScInv sc) {n : Name} {r : Reg} (hg : sc.get n = some r) : r ≠ .none :=
  fun e => by have := (hs.regs n r hg).1; rw [e] at this; cases this

theorem ScInv.clearTmps {sc : Scope} (hs : ScInv sc) : ScInv sc.clearTmps :=
  (Reach.single (F := False) (.tmp _ _)).scInv hs

theorem ScInv.of_top {sc : Scope} (hs : ScInv sc) {e : Expr} {c : CE} (h : compileExpr e sc.clearTmps = .ok c) :
    ScInv c.sc := (Reach.of_compileExpr h).scInv hs.clearTmps

theorem ScInv_new (uid : Nat) : ScInv (Scope.new uid) := by
  refine ⟨?_, fun n r hg => ?_, Nat.zero_le _⟩
  · exact Scope.new_get_of_mem uid flag_mem_builtinTable
  · obtain ⟨s, hs, -⟩ := Scope.new_get_mem uid hg
    have : ∀ p ∈ builtinTable, p.2.isNamed = true ∧ primOk p.2 = true := by decide
    exact this _ hs

theorem declareAll_scInv {uid : Nat} {ds : List Decl} {sc : Scope} (hn : ∀ d ∈ ds, d.var ≠ flagName)
    (h : declareAll (Scope.new uid) ds = .ok sc) : ScInv sc := by
  refine ⟨?_, declareAll_all (P := fun r => r.isNamed = true ∧ primOk r = true) ⟨rfl, rfl⟩ h
    (fun _ _ _ => ⟨⟨rfl, rfl⟩, ⟨rfl, rfl⟩⟩) (ScInv_new uid).regs, ?_⟩
  · rw [declareAll_get_of_not_mem ⟨rfl, rfl⟩ h hn]; exact (ScInv_new uid).flag
  · obtain ⟨-, -, rfl⟩ := declareAll_ok ⟨rfl, rfl⟩ h; exact Nat.zero_le _

theorem start_scInv {uid : Nat} {src : List Char} {ds : List Decl} {evs : List Event} {sc0 : Scope}
    (hp : parseSource src = some (ds, evs)) (hd : declareAll (Scope.new uid) ds = .ok sc0)
    (upd : List (Name × Nat)) : ScInv (applyUpdates sc0 upd) := by
  refine (applyUpdates_reach sc0 upd).scInv (declareAll_scInv (fun d hm e => ?_) hd)
  -- a declared name does not begin with `__`
  have h1 := (parseSource_decls hp d hm).2
  rw [e] at h1
  exact absurd h1 (by decide)

/-- an instruction whose encoding cannot panic: no `Reg::None` operand, no unlowered `And`/`Or` -/
def Instr.clean (i : Instr) : Prop :=
  i.op ≠ .and ∧ i.op ≠ .or ∧ i.res ≠ .none ∧ i.left ≠ .none ∧ i.right ≠ .none

/-- a conditional/ewma placeholder still waiting for its target register -/
structure HalfI (i : Instr) : Prop where
  res : i.res = .none
  left : i.left ≠ .none
  right : i.right ≠ .none
  op : okOp i.op

/-- the invariant of `compile_expr`'s result (I3/I7 of DESIGN Appendix C) -/
structure Good (c : CE) : Prop where
  clean : c.reg ≠ .none → ∀ i ∈ c.instrs, i.clean
  half : c.reg = .none → ∃ pre last, c.instrs = pre ++ [last] ∧ (∀ i ∈ pre, i.clean) ∧ HalfI last

theorem Good.sc {c : CE} (h : Good c) (sc : Scope) : Good { c with sc := sc } := ⟨h.clean, h.half⟩

theorem Instr.clean_mk {res l r : Reg} {o : Op} (ho : okOp o) (h1 : res ≠ .none) (h2 : l ≠ .none) (h3 : r ≠ .none) :
    Instr.clean { res := res, op := o, left := l, right := r } := ⟨ho.1, ho.2, h1, h2, h3⟩

theorem isRC_ne_none {r : Reg} (h : isRC r = true) : r ≠ .none := by
  intro e; subst e; simp [isRC] at h

theorem isTIL_ne_none {r : Reg} (h : isTIL r = true) : r ≠ .none := by
  intro e; subst e; simp [isTIL] at h

theorem combineBind_ne_none {is : List Instr} {l r : Reg} {sc : Scope} {c : CE}
    (h : combineBind is l r sc = .ok c) : c.reg ≠ .none := by
  rcases (combineBind_inv h).2 with ⟨-, h1, -⟩ | ⟨-, h1, -⟩
  · exact isRC_ne_none h1
  · exact (Bool.or_eq_true _ _ ▸ h1).elim isRC_ne_none isTIL_ne_none

theorem defInstrs_clean (l : List (Name × Reg)) : ∀ i ∈ defInstrs l, i.clean := by
  intro i hi
  obtain ⟨-, reg, -, hrc, ⟨n, -, rfl⟩ | ⟨b, -, rfl⟩⟩ := defInstrs_shape hi <;>
    exact ⟨nofun, nofun, isRC_ne_none hrc, isRC_ne_none hrc, nofun⟩

/-- the operand an atom yields is an immediate, what a name is bound to, or a new local: never the placeholder or a
temporary, a primitive only with an index of `Scope::new` -/
theorem compileAtom_reg {p : Prim} {sc : Scope} {c : CE} (hs : ScInv sc) (h : compileAtom p sc = .ok c) :
    c.instrs = [] ∧ c.reg ≠ .none ∧ (∀ j t, c.reg ≠ .tmp j t) ∧ primOk c.reg = true := by
  obtain ⟨hi, hreg⟩ := compileAtom_ok h
  refine ⟨hi, ?_⟩
  rcases hreg with ⟨-, ⟨b, -, hb⟩ | ⟨n, -, hn⟩ | ⟨n, -, hn⟩⟩ | ⟨n, -, -, -, hr, -⟩
  · rw [hb]; exact ⟨nofun, nofun, rfl⟩
  · rw [hn]; exact ⟨nofun, nofun, rfl⟩
  · obtain ⟨h1, h2⟩ := hs.regs n _ hn
    exact ⟨hs.ne_none hn, fun j t e => (by rw [e] at h1; cases h1), h2⟩
  · rw [hr]; exact ⟨nofun, nofun, rfl⟩

theorem compileAtom_good {p : Prim} {sc : Scope} {c : CE} (hs : ScInv sc) (h : compileAtom p sc = .ok c) :
    Good c := by
  obtain ⟨hi, hne, -⟩ := compileAtom_reg hs h
  exact ⟨fun _ i hi' => (by rw [hi] at hi'; cases hi'), fun e => absurd e hne⟩

theorem combine_good {o : Op} {l r c : CE} (hl : Good l) (hr : Good r)
    (h : combine o (l.instrs ++ r.instrs) l.reg r.reg r.sc = .ok c) : Good c := by
  rcases combine_inv h with ⟨ty, t, hk, hlt, hrt, rfl⟩ | ⟨-, hb⟩ | ⟨hk, hln, hrn, rfl⟩
  · have hres : (r.sc.newTmp t).1 ≠ .none := nofun
    obtain ⟨-, ho, -, hne⟩ := Op.kind_pure hk
    exact ⟨fun _ => forall_snoc (forall_append (hl.clean (hne hlt)) (hr.clean (hne hrt)))
        (Instr.clean_mk ho hres (hne hlt) (hne hrt)),
      fun e => absurd e hres⟩
  · obtain ⟨hq, hc⟩ := combineBind_inv hb
    have hreg : c.reg ≠ .none := combineBind_ne_none hb
    have hln : l.reg ≠ .none := by
      rcases bindTarget_ok hq with ⟨e1, -⟩ | ⟨s, r0, hs, -⟩
      · rw [← e1]; exact hreg
      · intro e; rw [e] at hs; cases hs
    refine ⟨fun _ => ?_, fun e => absurd e hreg⟩
    rcases hc with ⟨hrn, -, pre, last, e, hres, hi⟩ | ⟨hrn, -, hi⟩
    · obtain ⟨pre', last', e', hpre, hlast⟩ := hr.half hrn
      rw [e', ← List.append_assoc] at e
      obtain ⟨rfl, e2⟩ := List.append_inj' e rfl
      cases e2
      rw [hi]
      exact forall_snoc (forall_append (hl.clean hln) hpre) (Instr.clean_mk hlast.op hreg hlast.left hlast.right)
    · rw [hi]
      exact forall_snoc (forall_append (hl.clean hln) (hr.clean hrn)) (Instr.clean_mk ⟨nofun, nofun⟩ hreg hreg hrn)
  · refine ⟨fun e => absurd rfl e, fun _ => ⟨_, _, rfl, forall_append (hl.clean hln) (hr.clean hrn), ?_⟩⟩
    exact ⟨rfl, hln, hrn, (Op.kind_guard hk).2.1⟩

theorem compileExpr_good {e : Expr} {sc : Scope} {c : CE} (hs : ScInv sc) (h : compileExpr e sc = .ok c) :
    Good c :=
  compileExpr_ind (I := ScInv) Reach.scInv (fun _ hg => hg.sc _) compileAtom_good
    (fun _ hl hr h => combine_good (hl.sc _) hr h) hs h

theorem Block.clean {sc sc1 : Scope} {b : List Instr} (hs : ScInv sc) (h : Block sc b sc1) : ∀ i ∈ b, i.clean := by
  have hs' : ScInv sc.clearTmps := hs.clearTmps
  cases h with
  | flagTmp hc ht _ hg =>
    obtain ⟨j, b, ht⟩ := ht
    have hfr := (hs.of_top hc).ne_none hg
    exact forall_setLastRes ((compileExpr_good hs' hc).clean (by rw [ht]; nofun))
      fun _ ⟨h1, h2, _, h4, h5⟩ => ⟨h1, h2, hfr, h4, h5⟩
  | @flagImm _ c _ hc hb hg =>
    obtain ⟨b, hb⟩ := hb
    have hfr := (hs.of_top hc).ne_none hg
    have hrn : c.reg ≠ .none := by rw [hb]; nofun
    exact forall_snoc ((compileExpr_good hs' hc).clean hrn) (Instr.clean_mk ⟨nofun, nofun⟩ hfr hfr hrn)
  | stmt hc hreg => exact (compileExpr_good hs' hc).clean hreg

theorem compileProg_clean {evs : List Event} {sc sc' : Scope} {bin : Bin} (hs : ScInv sc)
    (h : compileProg evs sc = .ok (bin, sc')) : ∀ i ∈ bin.instrs, i.clean := by
  obtain ⟨bs, e, hbs, -⟩ := compileProg_blocks h
  have hb := hbs.forall (B := fun _ b => ∀ i ∈ b, i.clean) Reach.scInv (fun _ hk => hk) Block.clean hs
  rw [e]
  exact forall_append (defInstrs_clean _) (List.forall_mem_flatten.mpr hb)

theorem compileAtom_ne_panic {p : Prim} {sc : Scope} (hs : ScInv sc) : compileAtom p sc ≠ .panic := by
  cases p with
  | bool b => nofun
  | num n => nofun
  | name x =>
    rw [compileAtom_name_eq]
    split
    · nofun
    · have := hs.nl
      split
      · nofun
      · rw [if_pos (by omega)]
        nofun

theorem bindTarget_ne_panic (l r : Reg) (sc : Scope) : bindTarget l r sc ≠ .panic := by
  unfold bindTarget
  split
  · split
    · nofun
    · rw [Scope.updateType_eq]; split <;> nofun
  · nofun

/-- the `assert_eq!` and the `unreachable!` of the `Bind` arm: a placeholder on the right comes with a
last instruction that waits for its target -/
theorem combine_ne_panic {o : Op} {l r : CE} (ho : o ≠ .def) (hr : Good r) :
    combine o (l.instrs ++ r.instrs) l.reg r.reg r.sc ≠ .panic := by
  rw [combine_eq]
  split
  · split
    · nofun
    · split <;> nofun
  · unfold combineBind
    have := bindTarget_ne_panic l.reg r.reg r.sc
    cases hq : bindTarget l.reg r.reg r.sc with
    | panic => exact absurd hq this
    | err => nofun
    | ok q =>
      simp only [bindEmit]
      split
      · rename_i hrn
        obtain ⟨pre, last, e, -, hlast⟩ := hr.half hrn
        split
        · rw [e, ← List.append_assoc, List.getLast?_concat]
          simp only [hlast.res, if_true]; nofun
        · nofun
      · split <;> nofun
  · split <;> nofun
  · rename_i hk
    have := Op.kind_spec o
    rw [hk] at this
    exact absurd this ho

theorem compileExpr_ne_panic {e : Expr} (hd : NoDefE e) {sc : Scope} (hs : ScInv sc) :
    compileExpr e sc ≠ .panic := by
  induction e generalizing sc with
  | atom p => exact compileAtom_ne_panic hs
  | cmd _ => nofun
  | none => nofun
  | sexp o le re ihl ihr =>
    unfold compileExpr
    refine Out.bind_no_panic _ _ (ihl hd.2.1 hs) fun l hl => ?_
    have sl := (Reach.of_compileExpr hl).scInv hs
    exact Out.bind_no_panic _ _ (ihr hd.2.2 sl) fun r hr => combine_ne_panic hd.1 (compileExpr_good sl hr)

theorem compileFlag_ne_panic {f : Expr} (hd : NoDefE f) {sc : Scope} (hs : ScInv sc) :
    compileFlag f sc ≠ .panic := by
  unfold compileFlag
  refine Out.bind_no_panic _ _ (compileExpr_ne_panic hd hs.clearTmps) fun c hc => ?_
  have hf : c.sc.get "__eventFlag".toList = _ := (hs.of_top hc).flag
  rw [hf]
  simp only [unwrapP, Out.bind_ok]
  split
  · split <;> nofun
  · nofun
  · nofun

theorem compileBody_ne_panic {body : List Expr} (hd : ∀ e ∈ body, NoDefE e) {sc : Scope} (hs : ScInv sc) :
    compileBody body sc ≠ .panic := by
  induction body generalizing sc with
  | nil => nofun
  | cons e rest ih =>
    have hrest := fun x hx => hd x (List.mem_cons_of_mem _ hx)
    unfold compileBody
    split
    · exact ih hrest hs
    · refine Out.bind_no_panic _ _ (compileExpr_ne_panic (hd e List.mem_cons_self) hs.clearTmps) fun c hc => ?_
      split
      · nofun
      · exact Out.bind_no_panic _ _ (ih hrest (hs.of_top hc)) fun _ _ => nofun

theorem compileEvents_ne_panic {evs : List Event} (hd : ∀ ev ∈ evs, NoDefEv ev) {idx : Nat} {sc : Scope}
    (hs : ScInv sc) : compileEvents evs idx sc ≠ .panic := by
  induction evs generalizing idx sc with
  | nil => nofun
  | cons ev rest ih =>
    obtain ⟨hdf, hdb⟩ := hd ev List.mem_cons_self
    unfold compileEvents
    refine Out.bind_no_panic _ _ (compileFlag_ne_panic hdf hs) fun p hp => ?_
    have s1 := (Reach.of_compileFlag hp).scInv hs
    refine Out.bind_no_panic _ _ (compileBody_ne_panic hdb s1) fun q hq => ?_
    have s2 := (Reach.of_compileBody hq).scInv s1
    exact Out.bind_no_panic _ _ (ih (fun x hx => hd x (List.mem_cons_of_mem _ hx)) s2) fun _ _ => nofun

theorem compileProg_ne_panic {evs : List Event} (hd : ∀ ev ∈ evs, NoDefEv ev) {sc : Scope} (hs : ScInv sc) :
    compileProg evs sc ≠ .panic := by
  unfold compileProg
  exact Out.bind_no_panic _ _ (compileEvents_ne_panic hd hs) fun _ _ => nofun

theorem serializeOp_ne_panic {o : Op} (h1 : o ≠ .and) (h2 : o ≠ .or) : serializeOp o ≠ .panic := by
  intro e
  cases o <;> first | exact h1 rfl | exact h2 rfl | cases e

theorem Instr.serialize_ne_panic {i : Instr} (h : i.clean) : i.serialize ≠ .panic := by
  obtain ⟨h1, h2, h3, h4, h5⟩ := h
  unfold Instr.serialize
  split
  · exact absurd ‹_› (serializeOp_ne_panic h1 h2)
  · exact absurd ‹_› (Reg.serialize_ne_panic h3)
  · exact absurd ‹_› (Reg.serialize_ne_panic h4)
  · exact absurd ‹_› (Reg.serialize_ne_panic h5)
  · nofun
  · nofun

theorem serializeInstrs_ne_panic {is : List Instr} (h : ∀ i ∈ is, i.clean) :
    serializeInstrs is ≠ .panic := by
  induction is with
  | nil => nofun
  | cons i rest ih =>
    exact Out.bind_no_panic _ _ (Instr.serialize_ne_panic (h i List.mem_cons_self)) fun _ _ =>
      Out.bind_no_panic _ _ (ih fun j hj => h j (List.mem_cons_of_mem _ hj)) fun _ _ => nofun

theorem Bin.serialize_ne_panic {b : Bin} (h : ∀ i ∈ b.instrs, i.clean) : b.serialize ≠ .panic :=
  Out.bind_no_panic _ _ (serializeInstrs_ne_panic h) fun _ _ => nofun

end Portus.Lang
