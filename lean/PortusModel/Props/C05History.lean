import PortusModel.Props.C05
/-!
# C05 over whole histories — a datapath is always sent a program before being told to use it

`Props/C05` proves what one step does. This file closes the gap to the property itself: over every input history,
every change-program command the runtime transmits to an address names the uid of a program whose install message it
transmitted to that address earlier, with no ready from that address in between.

`installedOk` is an executable scan of the observed history (the acceptor); `InstallBeforeUse` states the property on
the flattened history with no scan state, and `installedOk_sound` shows that the scan implies it.

The proof carries the invariant `Inv`: *every registered address has the complete batch in its list*.
It is preserved by every step that keeps the runtime serving (`step_scan`, a case analysis of `Rt.Stepped`).
-/
namespace Portus.C05
open Portus Portus.Lang Portus.Wire Portus.Ipc Portus.Rt

/-- The dispatch loop over an input history. One input is the script items `recv` passed over before it
delivered the datagram (only their last `Rx.sf k`, which resets the send-failure budget, matters:
`applySf`), the source address and the decoded message. As in `loopStep`: after `.cont` the loop goes on with the
new state; after `.fail` (a failed install send, `run_inner` returns `Err`) nothing more is handled; a panic or model
error of the step (excluded for bounded user code, `runHistSf_cons`) would end the run without a record. -/
def runHistSf {σ : Type} (cfg : Cfg) (pol : Policy σ) :
    St σ → List (List Rx × Addr × Msg) → List (Addr × Msg × List Ev)
  | _, [] => []
  | st, (passed, addr, msg) :: rest =>
    match step cfg pol (applySf st passed) addr msg with
    | .ok (.cont st' evs) => (addr, msg, evs) :: runHistSf cfg pol st' rest
    | .ok (.fail _ evs) => [(addr, msg, evs)]
    | _ => []

/-- **The run is not cut short** for bounded user code. -/
theorem runHistSf_cons {σ : Type} (cfg : Cfg) (pol : Policy σ) (hb : pol.Bounded) (st : St σ)
    (passed : List Rx) (addr : Addr) (msg : Msg) (rest : List (List Rx × Addr × Msg)) :
    ∃ r, step cfg pol (applySf st passed) addr msg = .ok r ∧
      runHistSf cfg pol st ((passed, addr, msg) :: rest) =
        (addr, msg, r.evs) :: (match r with
          | .cont st' _ => runHistSf cfg pol st' rest
          | .fail _ _ => []) := by
  obtain ⟨r, hr, _⟩ := step_ok cfg pol hb (applySf st passed) addr msg
  refine ⟨r, hr, ?_⟩
  simp only [runHistSf, hr]
  cases r <;> rfl

/-- the run with a send-failure budget fixed at the start (no `Rx.sf` between messages) -/
def runHist {σ : Type} (cfg : Cfg) (pol : Policy σ) (st : St σ) (hist : List (Addr × Msg)) :
    List (Addr × Msg × List Ev) :=
  runHistSf cfg pol st (hist.map fun x => ([], x.1, x.2))

/-- scan state: the pairs `(a, b)` such that install message `b` has been transmitted to `a` since the
last ready received from `a` -/
abbrev Sent := List (Addr × Bytes)

def isInstall (cfg : Cfg) (b : Bytes) : Bool := cfg.progs.any fun p => p.install == b

/-- the change-program `b` to `a` is justified: it names the uid (as the 32-bit field at offset 8) of a
configured program whose install message is in `a`'s list -/
def usable (cfg : Cfg) (s : Sent) (a : Addr) (b : Bytes) : Bool :=
  cfg.progs.any fun p => decide ((a, p.install) ∈ s) && (rd32 (b.drop 8) == p.scope.uid % 2^32)

/-- one event: an install transmission is recorded; any other transmission of type 4 (change-program;
`install_before_use_partial` draws the same line) must be justified; nothing else matters. `none` is a
violation. -/
def scanEv (cfg : Cfg) (s : Sent) : Ev → Option Sent
  | .tx a b =>
    if isInstall cfg b then some ((a, b) :: s)
    else if rd16 b = 4 then (if usable cfg s a b then some s else none)
    else some s
  | _ => some s

def scanEvs (cfg : Cfg) : Sent → List Ev → Option Sent
  | s, [] => some s
  | s, e :: es => (scanEv cfg s e).bind fun s' => scanEvs cfg s' es

/-- reception of a message: a ready from `a` empties `a`'s list (before that step's events are scanned) -/
def onMsg (s : Sent) (a : Addr) : Msg → Sent
  | .rdy _ => s.filter fun q => q.1 != a
  | _ => s

def scanSteps (cfg : Cfg) : Sent → List (Addr × Msg × List Ev) → Option Sent
  | s, [] => some s
  | s, (a, m, evs) :: rest => (scanEvs cfg (onMsg s a m) evs).bind fun s' => scanSteps cfg s' rest

/-- the acceptor: starting with nothing installed anywhere, no violation -/
def installedOk (cfg : Cfg) (tr : List (Addr × Msg × List Ev)) : Bool := (scanSteps cfg [] tr).isSome

theorem isInstall_of_mem {cfg : Cfg} {p : ProgInfo} (hp : p ∈ cfg.progs) : isInstall cfg p.install = true :=
  List.any_eq_true.mpr ⟨p, hp, beq_self_eq_true _⟩

theorem scanEv_some {cfg : Cfg} {s s' : Sent} {e : Ev} (h : scanEv cfg s e = some s') :
    s' = s ∨ ∃ a b, e = .tx a b ∧ s' = (a, b) :: s := by
  cases e with
  | tx a b =>
    simp only [scanEv] at h
    split at h
    · exact Or.inr ⟨a, b, rfl, (Option.some.inj h).symm⟩
    · split at h
      · split at h
        · exact Or.inl (Option.some.inj h).symm
        · cases h
      · exact Or.inl (Option.some.inj h).symm
  | _ => exact Or.inl (Option.some.inj h).symm

theorem scanEv_mono {cfg : Cfg} {s s' : Sent} {e : Ev} (h : scanEv cfg s e = some s') : ∀ q ∈ s, q ∈ s' := by
  intro q hq
  rcases scanEv_some h with rfl | ⟨a, b, _, rfl⟩
  · exact hq
  · exact List.mem_cons_of_mem _ hq

theorem scanEvs_mono {cfg : Cfg} {evs : List Ev} {s s' : Sent} (h : scanEvs cfg s evs = some s') :
    ∀ q ∈ s, q ∈ s' := by
  induction evs generalizing s with
  | nil => cases h; exact fun _ h => h
  | cons e es ih =>
    obtain ⟨s1, h1, h⟩ := Option.bind_eq_some_iff.mp h
    intro q hq
    exact ih h q (scanEv_mono h1 q hq)

theorem scanEvs_records {cfg : Cfg} {evs : List Ev} {s s' : Sent} (h : scanEvs cfg s evs = some s')
    {a : Addr} {p : ProgInfo} (hp : p ∈ cfg.progs) (hmem : Ev.tx a p.install ∈ evs) : (a, p.install) ∈ s' := by
  induction evs generalizing s with
  | nil => cases hmem
  | cons e es ih =>
    obtain ⟨s1, h1, h⟩ := Option.bind_eq_some_iff.mp h
    simp only [List.mem_cons] at hmem
    rcases hmem with rfl | hmem
    · simp only [scanEv, isInstall_of_mem hp, if_true] at h1
      injection h1 with h1; subst h1
      exact scanEvs_mono h _ (List.mem_cons_self ..)
    · exact ih h hmem

theorem scanEvs_eq (cfg : Cfg) (s : Sent) (evs : List Ev) : scanEvs cfg s evs = evs.foldlM (scanEv cfg) s := by
  induction evs generalizing s with
  | nil => rfl
  | cons e es ih =>
    simp only [scanEvs, List.foldlM_cons, ih]
    rfl

theorem scanEvs_append (cfg : Cfg) (s : Sent) (xs ys : List Ev) :
    scanEvs cfg s (xs ++ ys) = (scanEvs cfg s xs).bind fun s' => scanEvs cfg s' ys := by
  simp only [scanEvs_eq, List.foldlM_append]
  rfl

def Full (cfg : Cfg) (s : Sent) (a : Addr) : Prop := ∀ p ∈ cfg.progs, (a, p.install) ∈ s

/-- the runtime's own events are accepted in every state -/
theorem scanEv_own {cfg : Cfg} {addr : Addr} {e : Ev} (s : Sent) (h : OwnEv cfg addr e) :
    ∃ s', scanEv cfg s e = some s' := by
  rcases h with h | rfl | ⟨p, hp, rfl⟩
  · cases e <;> first | exact ⟨_, rfl⟩ | cases h
  · exact ⟨_, rfl⟩
  · refine ⟨(addr, p.install) :: s, ?_⟩
    simp only [scanEv, isInstall_of_mem hp, if_true]

theorem scanEv_step {cfg : Cfg} {addr sid : Nat} {e : Ev} (s : Sent) (hfull : Full cfg s addr)
    (h : StepEv cfg addr sid e) : ∃ s', scanEv cfg s e = some s' := by
  rcases h with h | ⟨flow, hu, huid⟩
  · exact scanEv_own s h
  · rcases hu with rfl | ⟨b, rfl, _, _⟩ | ⟨m, rfl⟩
    · exact ⟨_, rfl⟩
    · simp only [scanEv]
      split
      · exact ⟨_, rfl⟩
      · split
        · rename_i h4
          obtain ⟨p, hp, hu⟩ := huid addr b rfl h4
          have : usable cfg s addr b = true := by
            simp only [usable, List.any_eq_true]
            exact ⟨p, hp, by simp [hfull p hp, hu]⟩
          simp only [this, if_true]
          exact ⟨_, rfl⟩
        · exact ⟨_, rfl⟩
    · exact ⟨_, rfl⟩

/-- a list of events is accepted if each is accepted in every state satisfying `P`, which acceptance preserves -/
theorem scanEvs_of_forall {cfg : Cfg} (P : Sent → Prop) (hP : ∀ {s s' e}, scanEv cfg s e = some s' → P s → P s') :
    ∀ {evs : List Ev} (s : Sent), P s → (∀ e ∈ evs, ∀ s, P s → ∃ s', scanEv cfg s e = some s') →
      ∃ s', scanEvs cfg s evs = some s'
  | [], s, _, _ => ⟨s, rfl⟩
  | e :: es, s, hs, h => by
    obtain ⟨s1, h1⟩ := h e List.mem_cons_self s hs
    obtain ⟨s2, h2⟩ := scanEvs_of_forall P hP s1 (hP h1 hs) (fun x hx => h x (List.mem_cons_of_mem _ hx))
    exact ⟨s2, by simp only [scanEvs, h1, Option.bind_some, h2]⟩

theorem scanEvs_own {cfg : Cfg} {addr : Addr} {evs : List Ev} (s : Sent) (h : ∀ e ∈ evs, OwnEv cfg addr e) :
    ∃ s', scanEvs cfg s evs = some s' :=
  scanEvs_of_forall (fun _ => True) (fun _ _ => trivial) s trivial fun e he s _ => scanEv_own s (h e he)

theorem scanEvs_step {cfg : Cfg} {addr sid : Nat} {evs : List Ev} (s : Sent) (hfull : Full cfg s addr)
    (h : ∀ e ∈ evs, StepEv cfg addr sid e) : ∃ s', scanEvs cfg s evs = some s' :=
  scanEvs_of_forall (Full cfg · addr) (fun h1 hf p hp => scanEv_mono h1 _ (hf p hp)) s hfull
    fun e he s hf => scanEv_step s hf (h e he)

theorem scan_batch (cfg : Cfg) (addr : Addr) (s : Sent) :
    ∃ s1, scanEvs cfg s (batch cfg addr) = some s1 ∧ Full cfg s1 addr := by
  obtain ⟨s1, hs1⟩ := scanEvs_own s (ownEv_batch cfg addr)
  exact ⟨s1, hs1, fun p hp => scanEvs_records hs1 hp (List.mem_map.mpr ⟨p, hp, rfl⟩)⟩

/-- first contact: after the batch everything the step emits is accepted -/
theorem scan_batch_then {cfg : Cfg} {addr sid : Nat} (s : Sent) {evs : List Ev} (h : ∀ e ∈ evs, StepEv cfg addr sid e) :
    ∃ s', scanEvs cfg s (batch cfg addr ++ evs) = some s' ∧ Full cfg s' addr := by
  obtain ⟨s1, h1, hfull⟩ := scan_batch cfg addr s
  obtain ⟨s', h2⟩ := scanEvs_step s1 hfull h
  exact ⟨s', by rw [scanEvs_append, h1]; exact h2, fun p hp => scanEvs_mono h2 _ (hfull p hp)⟩

def Inv {σ : Type} (cfg : Cfg) (st : St σ) (s : Sent) : Prop := ∀ a, registered st a → Full cfg s a

theorem Inv.applySf {σ : Type} {cfg : Cfg} {st : St σ} {s : Sent} (passed : List Rx) (h : Inv cfg st s) :
    Inv cfg (applySf st passed) s := by
  obtain ⟨k, e⟩ := applySf_eq st passed
  rw [e]
  exact h

/-- **One step, against the scan**: its events are accepted (after the reset a ready causes), and if the runtime
keeps serving the invariant holds again. -/
theorem step_scan {σ : Type} (cfg : Cfg) (pol : Policy σ) (hb : pol.Bounded) (st : St σ)
    (addr : Addr) (msg : Msg) (s : Sent) (hinv : Inv cfg st s) :
    ∃ r, step cfg pol st addr msg = .ok r ∧
      ∃ s', scanEvs cfg (onMsg s addr msg) r.evs = some s' ∧ (∀ st' evs, r = .cont st' evs → Inv cfg st' s') := by
  obtain ⟨r, hr, hs⟩ := step_stepped cfg pol hb st addr msg
  refine ⟨r, hr, ?_⟩
  -- a scan that ends with the sender's list complete re-establishes the invariant: the other addresses are
  -- untouched by the step and their lists survive `onMsg` and the scan
  have hkeep : ∀ {s'}, scanEvs cfg (onMsg s addr msg) r.evs = some s' → Full cfg s' addr →
      ∀ st' evs, r = .cont st' evs → Inv cfg st' s' := by
    intro s' hs' hfull st' evs he a ha
    have ha : registered r.st a := by rw [he]; exact ha
    by_cases haa : a = addr
    · exact haa ▸ hfull
    · intro p hp
      have hm := hinv a (by unfold registered at ha ⊢; rwa [← hs.lookup_ne haa]) p hp
      apply scanEvs_mono hs'
      -- only a ready filters the list (`onMsg`), and it keeps the pairs of the other addresses
      cases msg <;> first | exact hm | exact List.mem_filter.mpr ⟨hm, by simpa using haa⟩
  -- from a registered address, and not a ready: its list is complete, so everything is accepted
  have hreg : registered st addr → onMsg s addr msg = s →
      ∃ s', scanEvs cfg (onMsg s addr msg) r.evs = some s' ∧ (∀ st' evs, r = .cont st' evs → Inv cfg st' s') := by
    intro h1 hon
    obtain ⟨s', hs'⟩ := scanEvs_step s (hinv addr h1) hs.evs
    rw [← hon] at hs'
    exact ⟨s', hs', hkeep hs' fun p hp => scanEvs_mono hs' _ (by rw [hon]; exact hinv addr h1 p hp)⟩
  have hcur : ∀ {sid f}, cur st addr sid = some f → registered st addr := fun hc => by
    unfold registered
    rw [fm_of_cur hc]
    rfl
  cases hs with
  | other _ | unknown _ _ => exact ⟨s, rfl, fun _ _ he => by cases he; exact hinv⟩
  | report _ _ _ _ _ hc | close _ _ _ _ hc => exact hreg (hcur hc) rfl
  | rdyFail _ _ =>
    obtain ⟨s', hs'⟩ := scanEvs_own (onMsg s addr (.rdy _)) (evs := dropAll (st.fm addr) ++ [.txFail addr])
      (List.forall_mem_append.mpr ⟨ownEv_dropAll cfg addr _, List.forall_mem_singleton.mpr (Or.inr (Or.inl rfl))⟩)
    exact ⟨s', hs', nofun⟩
  | crFail _ _ _ => exact ⟨s, rfl, nofun⟩
  | rdy id _ =>
    obtain ⟨s0, h0⟩ := scanEvs_own (onMsg s addr (.rdy id)) (ownEv_dropAll cfg addr (st.fm addr))
    obtain ⟨s1, h1, hfull⟩ := scan_batch cfg addr s0
    have hs' : scanEvs cfg (onMsg s addr (.rdy id)) (dropAll (st.fm addr) ++ batch cfg addr) = some s1 := by
      rw [scanEvs_append, h0]; exact h1
    exact ⟨s1, hs', hkeep hs' hfull⟩
  | create c u sf uevs h _ hu =>
    by_cases hk : registered st addr
    · exact hreg hk rfl
    · have hun : st.flows.lookup addr = none := Option.not_isSome_iff_eq_none.mp hk
      simp only [StepRes.evs, first_contact_evs cfg c.sid hun] at hkeep ⊢
      refine (scan_batch_then (sid := c.sid) s ?_).imp fun s' h => ⟨h.1, hkeep h.1 h.2⟩
      exact List.forall_mem_cons.mpr ⟨Or.inl (Or.inl rfl), stepEv_user hu⟩

theorem scan_runHistSf {σ : Type} (cfg : Cfg) (pol : Policy σ) (hb : pol.Bounded)
    (hist : List (List Rx × Addr × Msg)) (st : St σ) (s : Sent) (hinv : Inv cfg st s) :
    ∃ s', scanSteps cfg s (runHistSf cfg pol st hist) = some s' := by
  induction hist generalizing st s with
  | nil => exact ⟨s, rfl⟩
  | cons x rest ih =>
    obtain ⟨passed, addr, msg⟩ := x
    obtain ⟨r, hr, s1, hs1, hinv1⟩ := step_scan cfg pol hb (applySf st passed) addr msg s (hinv.applySf passed)
    simp only [runHistSf, hr]
    cases r with
    | cont st' evs =>
      simp only [scanSteps, show scanEvs cfg (onMsg s addr msg) evs = some s1 from hs1, Option.bind_some]
      exact ih st' s1 (hinv1 st' evs rfl)
    | fail st' evs =>
      simp only [scanSteps, show scanEvs cfg (onMsg s addr msg) evs = some s1 from hs1, Option.bind_some]
      exact ⟨_, rfl⟩

theorem Inv.init {σ : Type} (cfg : Cfg) (sf : Nat) : Inv cfg ({ (St.init : St σ) with sendFail := sf }) [] := nofun

/-- **Install before use, for every history** (with the send-failure budget reset at will between
messages, as `loopStep`/`applySf` allow). -/
theorem install_before_use_sf {σ : Type} (cfg : Cfg) (pol : Policy σ) (hb : pol.Bounded) (sf : Nat)
    (hist : List (List Rx × Addr × Msg)) :
    installedOk cfg (runHistSf cfg pol { (St.init : St σ) with sendFail := sf } hist) = true := by
  obtain ⟨s', h⟩ := scan_runHistSf cfg pol hb hist _ [] (Inv.init cfg sf)
  simp only [installedOk, h, Option.isSome_some]

theorem install_before_use {σ : Type} (cfg : Cfg) (pol : Policy σ) (hb : pol.Bounded) (sf : Nat)
    (hist : List (Addr × Msg)) :
    installedOk cfg (runHist cfg pol { (St.init : St σ) with sendFail := sf } hist) = true :=
  install_before_use_sf cfg pol hb sf _

/-! ## What the scan means: the statement without any scan state

The observed history is flattened into one sequence of items, receptions and emitted events in the
order in which they happen. -/

inductive Item where
  | recv (src : Addr) (msg : Msg)
  | ev (e : Ev)
deriving Repr, DecidableEq

def flat : List (Addr × Msg × List Ev) → List Item
  | [] => []
  | (a, m, evs) :: rest => .recv a m :: (evs.map .ev ++ flat rest)

/-- `b` was transmitted to `a` in `pre`, and `a` has not announced itself (ready) since -/
def SentSince (pre : List Item) (a : Addr) (b : Bytes) : Prop :=
  ∃ pre1 pre2, pre = pre1 ++ .ev (.tx a b) :: pre2 ∧ ∀ id, Item.recv a (.rdy id) ∉ pre2

/-- **The property C05 on a flattened history** (a change-program transmission: type 4 and not one of the install
messages). -/
def InstallBeforeUse (cfg : Cfg) (items : List Item) : Prop :=
  ∀ pre a b post, items = pre ++ .ev (.tx a b) :: post → rd16 b = 4 → (∀ p ∈ cfg.progs, b ≠ p.install) →
    ∃ p ∈ cfg.progs, rd32 (b.drop 8) = p.scope.uid % 2^32 ∧ SentSince pre a p.install

def scanItem (cfg : Cfg) (s : Sent) : Item → Option Sent
  | .recv a m => some (onMsg s a m)
  | .ev e => scanEv cfg s e

def scanItems (cfg : Cfg) (s : Sent) (xs : List Item) : Option Sent := xs.foldlM (scanItem cfg) s

theorem scanSteps_eq_flat (cfg : Cfg) (s : Sent) (tr : List (Addr × Msg × List Ev)) :
    scanSteps cfg s tr = scanItems cfg s (flat tr) := by
  induction tr generalizing s with
  | nil => rfl
  | cons x rest ih =>
    obtain ⟨a, m, evs⟩ := x
    simp only [scanSteps, flat, scanItems, List.foldlM_cons, List.foldlM_append, List.foldlM_map, scanEvs_eq, ih]
    rfl

theorem scanEv_new {cfg : Cfg} {s s' : Sent} {e : Ev} (h : scanEv cfg s e = some s') {a : Addr} {b : Bytes}
    (hm : (a, b) ∈ s') : (a, b) ∈ s ∨ e = .tx a b := by
  rcases scanEv_some h with rfl | ⟨a', b', rfl, rfl⟩
  · exact Or.inl hm
  · rcases List.mem_cons.mp hm with e | hm
    · cases e
      exact Or.inr rfl
    · exact Or.inl hm

theorem scanItems_state {cfg : Cfg} {pre : List Item} {s0 s : Sent} (h : scanItems cfg s0 pre = some s)
    {a : Addr} {b : Bytes} (hm : (a, b) ∈ s) :
    ((a, b) ∈ s0 ∧ ∀ id, Item.recv a (.rdy id) ∉ pre) ∨ SentSince pre a b := by
  induction pre generalizing s0 with
  | nil =>
    cases h
    exact Or.inl ⟨hm, nofun⟩
  | cons x xs ih =>
    simp only [scanItems, List.foldlM_cons] at h
    obtain ⟨s1, h1, h⟩ := Option.bind_eq_some_iff.mp h
    rcases ih h with ⟨hm1, hno⟩ | ⟨pre1, pre2, he, hno⟩
    · cases x with
      | recv a' m =>
        simp only [scanItem] at h1
        injection h1 with h1; subst h1
        -- the pair survived `onMsg`: it was there before, and this reception is no ready from `a`
        have hm0 : (a, b) ∈ s0 := by
          cases m <;> first | exact hm1 | exact (List.mem_filter.mp hm1).1
        refine Or.inl ⟨hm0, fun id => List.not_mem_cons_of_ne_of_not_mem (fun e => ?_) (hno id)⟩
        cases e
        simp [onMsg] at hm1
      | ev e =>
        simp only [scanItem] at h1
        rcases scanEv_new h1 hm1 with hm0 | rfl
        · exact Or.inl ⟨hm0, fun id => List.not_mem_cons_of_ne_of_not_mem nofun (hno id)⟩
        · exact Or.inr ⟨[], xs, rfl, hno⟩
    · exact Or.inr ⟨x :: pre1, pre2, by rw [he]; rfl, hno⟩

theorem isInstall_false {cfg : Cfg} {b : Bytes} (h : ∀ p ∈ cfg.progs, b ≠ p.install) : isInstall cfg b = false := by
  rw [isInstall, List.any_eq_false]
  exact fun p hp he => h p hp (by simpa using he : p.install = b).symm

theorem scanItems_sound {cfg : Cfg} {items : List Item} (h : (scanItems cfg [] items).isSome = true) :
    InstallBeforeUse cfg items := by
  intro pre a b post he h4 hni
  subst he
  rw [scanItems, List.foldlM_append] at h
  cases h1 : pre.foldlM (scanItem cfg) [] with
  | none => rw [h1] at h; cases h
  | some s1 =>
    simp only [h1, Option.bind_eq_bind, Option.bind_some, List.foldlM_cons, scanItem, scanEv, isInstall_false hni,
      Bool.false_eq_true, if_false, h4, if_true] at h
    cases hu : usable cfg s1 a b with
    | false => simp [hu] at h
    | true =>
      simp only [usable, List.any_eq_true, Bool.and_eq_true, decide_eq_true_eq, beq_iff_eq] at hu
      obtain ⟨p, hp, hmem, huid⟩ := hu
      refine ⟨p, hp, huid, ?_⟩
      rcases scanItems_state h1 hmem with ⟨h0, _⟩ | hs
      · cases h0
      · exact hs

theorem installedOk_sound {cfg : Cfg} {tr : List (Addr × Msg × List Ev)} (h : installedOk cfg tr = true) :
    InstallBeforeUse cfg (flat tr) := by
  apply scanItems_sound
  rw [← scanSteps_eq_flat]
  exact h

/-- **C05, for every history, stated on the flattened trace.** -/
theorem install_before_use_trace {σ : Type} (cfg : Cfg) (pol : Policy σ) (hb : pol.Bounded) (sf : Nat)
    (hist : List (Addr × Msg)) :
    InstallBeforeUse cfg (flat (runHist cfg pol { (St.init : St σ) with sendFail := sf } hist)) :=
  installedOk_sound (install_before_use cfg pol hb sf hist)

/-- when no install message carries the change-program type (the real ones have type 2), the side
condition "not one of the install messages" disappears -/
theorem install_before_use_trace_typed {σ : Type} (cfg : Cfg) (hcfg : ∀ p ∈ cfg.progs, rd16 p.install ≠ 4)
    (pol : Policy σ) (hb : pol.Bounded) (sf : Nat) (hist : List (List Rx × Addr × Msg))
    (pre : List Item) (a : Addr) (b : Bytes) (post : List Item)
    (he : flat (runHistSf cfg pol { (St.init : St σ) with sendFail := sf } hist) = pre ++ .ev (.tx a b) :: post)
    (h4 : rd16 b = 4) :
    ∃ p ∈ cfg.progs, rd32 (b.drop 8) = p.scope.uid % 2^32 ∧ SentSince pre a p.install :=
  installedOk_sound (install_before_use_sf cfg pol hb sf hist) pre a b post he h4
    (fun p hp e => hcfg p hp (by rw [← e]; exact h4))

/-- one program, uid 7 -/
def exCfg : Cfg :=
  { algs := [⟨[], true⟩],
    progs := [{ pname := "p", scope := { uid := 7, named := [], numControl := 0, numLocal := 0, numPerm := 0, tmp := [] },
                install := [2, 0, 9, 0, 0, 0, 0, 0, 7] }] }

/-- switches to program `p` on every report -/
def exPol : Policy Unit :=
  { newFlow := fun _ _ _ => .done (),
    onReport := fun _ _ _ _ => .setProgram "p" none fun _ => .done (),
    onClose := fun _ => .done () }

theorem exPol_bounded : exPol.Bounded :=
  ⟨fun _ _ _ => trivial, fun _ _ _ _ => ⟨by decide, fun _ => trivial⟩, fun _ => trivial⟩

def exHist : List (Addr × Msg) :=
  [(5, .rdy 1), (5, .cr ⟨3, 10, 1460, 0, 0, 0, 0, none⟩), (5, .ms ⟨3, 7, 1, [42]⟩)]

theorem exRun : runHist exCfg exPol St.init exHist =
    [(5, .rdy 1, [.tx 5 [2, 0, 9, 0, 0, 0, 0, 0, 7]]),
     (5, .cr ⟨3, 10, 1460, 0, 0, 0, 0, none⟩, [.newFlow 1 0 ⟨3, 10, 1460, 0, 0, 0, 0⟩ 3]),
     (5, .ms ⟨3, 7, 1, [42]⟩, [.report 1 3 7 [42], .tx 5 [4, 0, 16, 0, 3, 0, 0, 0, 7, 0, 0, 0, 0, 0, 0, 0]])] := by
  decide +kernel

/-- the theorem's instance, re-checked by evaluation: the scan meets the change-program of step 3 and
finds the install of step 1 -/
example : installedOk exCfg (runHist exCfg exPol St.init exHist) = true := by decide +kernel

/-- the same through the theorem -/
example : installedOk exCfg (runHist exCfg exPol St.init exHist) = true :=
  install_before_use exCfg exPol exPol_bounded 0 exHist

/-- first contact by create (no ready at all): batch, then the handler -/
example : runHist exCfg exPol St.init [(5, .cr ⟨3, 10, 1460, 0, 0, 0, 0, none⟩), (5, .ms ⟨3, 7, 1, [42]⟩)] =
    [(5, .cr ⟨3, 10, 1460, 0, 0, 0, 0, none⟩,
        [.tx 5 [2, 0, 9, 0, 0, 0, 0, 0, 7], .newFlow 1 0 ⟨3, 10, 1460, 0, 0, 0, 0⟩ 3]),
     (5, .ms ⟨3, 7, 1, [42]⟩, [.report 1 3 7 [42], .tx 5 [4, 0, 16, 0, 3, 0, 0, 0, 7, 0, 0, 0, 0, 0, 0, 0]])] := by
  decide +kernel

/-- a failed install send ends the run: the create that follows is never handled -/
example : runHist exCfg exPol { (St.init : St Unit) with sendFail := 1 } exHist = [(5, .rdy 1, [.txFail 5])] := by
  decide +kernel

/-- the budget set between messages (`Rx.sf`): the change-program send fails, nothing is transmitted -/
example : runHistSf exCfg exPol St.init
      [([], 5, .rdy 1), ([], 5, .cr ⟨3, 10, 1460, 0, 0, 0, 0, none⟩), ([.sf 1], 5, .ms ⟨3, 7, 1, [42]⟩)] =
    [(5, .rdy 1, [.tx 5 [2, 0, 9, 0, 0, 0, 0, 0, 7]]),
     (5, .cr ⟨3, 10, 1460, 0, 0, 0, 0, none⟩, [.newFlow 1 0 ⟨3, 10, 1460, 0, 0, 0, 0⟩ 3]),
     (5, .ms ⟨3, 7, 1, [42]⟩, [.report 1 3 7 [42], .txFail 5])] := by
  decide +kernel

/-! hand-written traces the predicate rejects -/

/-- a change-program before any install -/
example : installedOk exCfg
    [(5, .rdy 1, []),
     (5, .ms ⟨3, 7, 1, [42]⟩, [.tx 5 [4, 0, 16, 0, 3, 0, 0, 0, 7, 0, 0, 0, 0, 0, 0, 0]])] = false := by
  decide +kernel

/-- the install went to another address -/
example : installedOk exCfg
    [(6, .rdy 1, [.tx 6 [2, 0, 9, 0, 0, 0, 0, 0, 7]]),
     (5, .ms ⟨3, 7, 1, [42]⟩, [.tx 5 [4, 0, 16, 0, 3, 0, 0, 0, 7, 0, 0, 0, 0, 0, 0, 0]])] = false := by
  decide +kernel

/-- the datapath announced itself again after the install and was not sent the program again -/
example : installedOk exCfg
    [(5, .rdy 1, [.tx 5 [2, 0, 9, 0, 0, 0, 0, 0, 7]]),
     (5, .rdy 2, []),
     (5, .ms ⟨3, 7, 1, [42]⟩, [.tx 5 [4, 0, 16, 0, 3, 0, 0, 0, 7, 0, 0, 0, 0, 0, 0, 0]])] = false := by
  decide +kernel

/-- the install comes after the command, inside the same step -/
example : installedOk exCfg
    [(5, .cr ⟨3, 10, 1460, 0, 0, 0, 0, none⟩,
      [.tx 5 [4, 0, 16, 0, 3, 0, 0, 0, 7, 0, 0, 0, 0, 0, 0, 0], .tx 5 [2, 0, 9, 0, 0, 0, 0, 0, 7]])] = false := by
  decide +kernel

/-- the command names a uid that is not the installed program's -/
example : installedOk exCfg
    [(5, .rdy 1, [.tx 5 [2, 0, 9, 0, 0, 0, 0, 0, 7]]),
     (5, .ms ⟨3, 7, 1, [42]⟩, [.tx 5 [4, 0, 16, 0, 3, 0, 0, 0, 8, 0, 0, 0, 0, 0, 0, 0]])] = false := by
  decide +kernel

/-- and the corresponding accepted hand-written trace -/
example : installedOk exCfg
    [(5, .rdy 1, [.tx 5 [2, 0, 9, 0, 0, 0, 0, 0, 7]]),
     (6, .rdy 1, [.tx 6 [2, 0, 9, 0, 0, 0, 0, 0, 7]]),
     (5, .ms ⟨3, 7, 1, [42]⟩, [.tx 5 [4, 0, 16, 0, 3, 0, 0, 0, 7, 0, 0, 0, 0, 0, 0, 0]])] = true := by
  decide +kernel

/-! ## Why the run has to end at a failed step

The state a failed first-contact create leaves behind has the address registered (`entry(addr)` is
taken before the install sends) although no program reached it: the invariant `Inv` does not survive a
`.fail`. The theorem therefore depends on the runtime stopping there, which it does (`run_inner`
returns the error; `loopStep`: `.fail ↦ .finished .err`). -/
example : ∃ st' : St Unit,
    step exCfg exPol { (St.init : St Unit) with sendFail := 1 } 5 (.cr ⟨3, 10, 1460, 0, 0, 0, 0, none⟩) =
      .ok (.fail st' [.txFail 5]) ∧ registered st' 5 :=
  ⟨_, rfl, rfl⟩

end Portus.C05
