import PortusModel.Rt.Handle
import PortusModel.Props.C13
/-!
# C12 — report fields are looked up by name correctly or refused with the right error
`getFieldP` is the model of `Report::get_field` with the slice indexing kept as a panicking primitive.
-/
namespace Portus.C12
open Portus Portus.Lang Portus.Rt

/-- **No panic, and the decision table**: a scope from another compilation ⇒ stale; otherwise an unbound name ⇒
not-found; a name bound to anything but a report register ⇒ invalid-type; a report register whose slot is beyond
the report ⇒ invalid-report; otherwise the value in exactly that slot. -/
theorem get_field_spec (uid : Nat) (fields : List Nat) (f : Name) (sc : Scope) :
    getFieldP uid fields f sc = .ok (
      if sc.uid ≠ uid then .error .stale
      else match sc.get f with
        | none => .error .notFound
        | some (.report idx _ _) => if h : idx < fields.length then .ok fields[idx] else .error .invalidReport
        | some _ => .error .invalidType) := by
  unfold getFieldP
  by_cases hu : sc.uid ≠ uid
  · simp [hu]
  · simp only [hu, if_false]
    cases hg : sc.get f with
    | none => rfl
    | some r =>
      cases r with
      | report idx t v =>
        simp only
        by_cases hlt : idx < fields.length
        · have : ¬ idx ≥ fields.length := by omega
          simp [idxP, hlt, this]
        · have : idx ≥ fields.length := by omega
          simp [hlt, this]
      | _ => rfl

theorem get_field_no_panic (uid : Nat) (fields : List Nat) (f : Name) (sc : Scope) :
    getFieldP uid fields f sc ≠ .panic := by
  rw [get_field_spec]; simp

/-- the executable `getField` used by the runtime model's flows agrees with it -/
theorem getField_eq (uid : Nat) (fields : List Nat) (f : Name) (sc : Scope) :
    getFieldP uid fields f sc = .ok (getField uid fields f sc) := by
  rw [get_field_spec]
  unfold getField
  congr 1
  by_cases hu : sc.uid ≠ uid
  · simp [hu]
  · simp only [hu, if_false]
    cases hg : sc.get f with
    | none => rfl
    | some r =>
      cases r with
      | report idx t v =>
        simp only
        by_cases hlt : idx < fields.length
        · simp [hlt]
        · simp [hlt]
      | _ => rfl

/-- **Stale first.** A scope from a different compilation (different uid) yields the stale-program
error whatever the name and the report contain — also for a recompilation of identical source. -/
theorem stale_scope (uid : Nat) (fields : List Nat) (f : Name) (sc : Scope) (h : sc.uid ≠ uid) :
    getFieldP uid fields f sc = .ok (.error .stale) := by
  rw [get_field_spec]; simp [h]

/-- **Only the variable's own slot**: a successful lookup returns the value at the index of the report register the
name is bound to. -/
theorem value_is_own_slot (uid : Nat) (fields : List Nat) (f : Name) (sc : Scope) (v : Nat)
    (h : getFieldP uid fields f sc = .ok (.ok v)) :
    sc.uid = uid ∧ ∃ idx t vol, sc.get f = some (.report idx t vol) ∧ fields[idx]? = some v := by
  rw [getField_eq] at h
  injection h with h
  unfold getField at h
  split at h
  · cases h
  · next hu =>
    refine ⟨Decidable.not_not.mp hu, ?_⟩
    split at h
    · cases h
    · next idx t vol hg =>
      split at h
      · cases h
      · next hv =>
        cases h
        exact ⟨idx, t, vol, hg, hv⟩
    · cases h

/-- With C13 (`compile_scope_slots`): for the scope of an accepted program with distinct declared names,
the `k`-th declared report variable reads slot `k` of a report of the same program. -/
theorem declared_report_variable_reads_its_slot (uid : Nat) (src : List Char) (upd : List (Name × Nat))
    (ds : List Decl) (evs : List Event) (bin : Bin) (sc : Scope)
    (hp : parseSource src = some (ds, evs)) (hnd : (ds.map (·.var)).Nodup)
    (hfresh : ∀ d ∈ ds, (Scope.new uid).get d.var = none) (h : compile uid src upd = .ok (bin, sc))
    (fields : List Nat) (k : Nat) (hk : k < (reportsOf ds).length) (hf : k < fields.length) :
    getFieldP uid fields (reportsOf ds)[k].var sc = .ok (.ok fields[k]) := by
  obtain ⟨ha, _, ⟨_, _, hu, _⟩, _⟩ := C13.compile_scope_slots uid src upd ds evs bin sc hp hnd hfresh h
  rw [get_field_spec, ha k hk]
  simp [hu, hf]

/-- `C12.check`: the observed result of a lookup is the one the decision table prescribes. -/
def check (uid : Nat) (fields : List Nat) (f : Name) (sc : Scope) (obs : Out (Except GetErr Nat)) : Bool :=
  obs == .ok (getField uid fields f sc)

theorem check_model (uid : Nat) (fields : List Nat) (f : Name) (sc : Scope) :
    check uid fields f sc (getFieldP uid fields f sc) = true := by
  simp [check, getField_eq]

example : getFieldP 7 [10, 20] "x".toList
    ⟨7, [("x".toList, .report 1 (.num none) true)], 0, 0, 1, []⟩ = .ok (.ok 20) := by decide
example : getFieldP 7 [10] "x".toList
    ⟨7, [("x".toList, .report 1 (.num none) true)], 0, 0, 1, []⟩ = .ok (.error .invalidReport) := by decide
example : getFieldP 8 [10, 20] "x".toList
    ⟨7, [("x".toList, .report 1 (.num none) true)], 0, 0, 1, []⟩ = .ok (.error .stale) := by decide

end Portus.C12
