import PortusModel.Base.Bytes
import PortusModel.Base.Out
import PortusModel.Base.Prim
import PortusModel.Base.Utf8
import PortusModel.Conc.Own
import PortusModel.Conc.Transport
import PortusModel.Conc.UidModel
import PortusModel.Driver.Bkd
import PortusModel.Driver.Ctl
import PortusModel.Driver.Lang
import PortusModel.Driver.Orc
import PortusModel.Driver.Rt
import PortusModel.Driver.Uid
import PortusModel.Driver.Util
import PortusModel.Driver.Vm
import PortusModel.Driver.Wire
import PortusModel.Driver.Wt
import PortusModel.Driver.Xpt
import PortusModel.Generated.Tables
import PortusModel.Generated.UidOp
import PortusModel.Ipc.Backend
import PortusModel.Lang.Ast
import PortusModel.Lang.Compile
import PortusModel.Lang.Fragment
import PortusModel.Lang.Lower
import PortusModel.Lang.Nom
import PortusModel.Lang.Parse
import PortusModel.Lang.Render
import PortusModel.Lang.Scope
import PortusModel.Lang.Sem
import PortusModel.Lang.Serialize
import PortusModel.Lang.Tables
import PortusModel.Lang.Typing
import PortusModel.Lemmas.Accept
import PortusModel.Lemmas.AcceptProg
import PortusModel.Lemmas.AcceptValue
import PortusModel.Lemmas.Assoc
import PortusModel.Lemmas.Backend
import PortusModel.Lemmas.Cell
import PortusModel.Lemmas.CompileInv
import PortusModel.Lemmas.CompileLower
import PortusModel.Lemmas.CompileRho
import PortusModel.Lemmas.Ctl
import PortusModel.Lemmas.Datapath
import PortusModel.Lemmas.Handle
import PortusModel.Lemmas.ImageInv
import PortusModel.Lemmas.Literals
import PortusModel.Lemmas.LowerRun
import PortusModel.Lemmas.LowerSem
import PortusModel.Lemmas.ParseInv
import PortusModel.Lemmas.ParseRender
import PortusModel.Lemmas.Parser
import PortusModel.Lemmas.Pipeline
import PortusModel.Lemmas.Rt
import PortusModel.Lemmas.RtStep
import PortusModel.Lemmas.ScopeLemmas
import PortusModel.Lemmas.Templates
import PortusModel.Lemmas.TextEval
import PortusModel.Lemmas.UidIndep
import PortusModel.Lemmas.WireAttr
import PortusModel.Lemmas.WireDec
import PortusModel.Lemmas.WireEnc
import PortusModel.Props.C01
import PortusModel.Props.C01Decode
import PortusModel.Props.C01Sim
import PortusModel.Props.C02
import PortusModel.Props.C02Bytes
import PortusModel.Props.C02History
import PortusModel.Props.C02Loop
import PortusModel.Props.C03
import PortusModel.Props.C04
import PortusModel.Props.C05
import PortusModel.Props.C05History
import PortusModel.Props.C05Loop
import PortusModel.Props.C06
import PortusModel.Props.C06Acts
import PortusModel.Props.C06Uid
import PortusModel.Props.C07
import PortusModel.Props.C08
import PortusModel.Props.C09
import PortusModel.Props.C09History
import PortusModel.Props.C10
import PortusModel.Props.C11
import PortusModel.Props.C12
import PortusModel.Props.C13
import PortusModel.Props.C14
import PortusModel.Props.C15
import PortusModel.Props.C16
import PortusModel.Props.C17
import PortusModel.Props.C18
import PortusModel.Props.C18Own
import PortusModel.Props.C19
import PortusModel.Props.C19Bounded
import PortusModel.Props.C20
import PortusModel.Props.C20Layout
import PortusModel.Props.Tables
import PortusModel.Props.Vertical
import PortusModel.Props.VerticalDown
import PortusModel.Rt.Handle
import PortusModel.Rt.Obs
import PortusModel.Rt.Run
import PortusModel.Vm.Datapath
import PortusModel.Vm.Machine
import PortusModel.Wire.Ctl
import PortusModel.Wire.Dp
import PortusModel.Wire.Libccp
import PortusModel.Wire.LibccpRead
