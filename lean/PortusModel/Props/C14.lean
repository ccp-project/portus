import PortusModel.Lemmas.CompileInv
import PortusModel.Lemmas.Templates
/-!
# C14 — integer literals reach the datapath exactly

Every integer literal or initial value of an accepted program is encoded so that the datapath reads
back exactly that value, with `+infinity` (the largest 64-bit value) encoded as the all-ones 32-bit
immediate; every literal below 2^31 is accepted, and a literal the 32-bit immediate field cannot hold
makes compilation or serialization fail. No literal is silently truncated, wrapped or reinterpreted,
and initial-value overrides supplied at compile time obey the same rule.
-/
namespace Portus.C14
open Portus Portus.Lang Portus.Wire

/-- where the literal sits in the fixed template program -/
inductive Pos | operand | definition | override
deriving Repr, DecidableEq, Inhabited

/-- expected 32-bit immediate for a literal value, or none if it must be rejected -/
def expectedImm (v : Nat) : Option Nat :=
  if v < 2^31 then some v else if v = 2^64 - 1 then some (2^32 - 1) else none

/-- the override template has no numeral in the source: the literal is the compile-time override `c = <LIT>` -/
def template (pos : Pos) (ds : List Char) : List Char :=
  match pos with
  | .operand => tmplOperand ds
  | .definition => tmplDefinition ds
  | .override => tmplOverride

/-- byte offset of the class byte of the literal's operand in the image: one 16-byte event record,
16 bytes per instruction, the right operand starts at byte 11 of an instruction -/
def litOffset : Pos → Nat
  | .operand => 16 + 16 * 2 + 11
  | .definition => 16 + 16 * 0 + 11
  | .override => 16 + 16 * 1 + 11

/-- `obs` is the outcome of `compile_and_serialize` on the template for `pos`; `v` is the value of the numeral,
`none` if it does not fit `u64` -/
def check (pos : Pos) (v : Option Nat) (obs : Out Bytes) : Bool :=
  match v.bind expectedImm with
  | none => obs == .err
  | some w =>
    match obs with
    | .ok img =>
      decide (litOffset pos + 5 ≤ img.length) && bAt img (litOffset pos) == 1 &&
        rd32 (img.drop (litOffset pos + 1)) == w
    | _ => false

/-- what `Driver/Orc` passes as the oracle's `v`; `model_image_*` and `check_model_*` spell this body out -/
def numeralValue (ds : List Char) : Option Nat :=
  if digitsVal ds < 2^64 then some (digitsVal ds) else none

def imageOf (o : Out (Bytes × Scope)) : Out Bytes :=
  match o with
  | .ok p => .ok p.1
  | .err => .err
  | .panic => .panic

/-! The numeral lemmas are proved in `Lemmas/Parser` (the parser lemmas need them too) and stated here under the
names of the property. -/

theorem digitsVal_snoc (ds : List Char) (d : Char) :
    digitsVal (ds ++ [d]) = 10 * digitsVal ds + (d.toNat - 48) :=
  Lang.digitsVal_snoc ds d

theorem digitsVal_repr (n : Nat) : digitsVal (Nat.toDigits 10 n) = n :=
  Lang.digitsVal_repr n

/-- a maximal decimal numeral that does not fit `u64` is refused: not re-read as a name, not wrapped -/
theorem numeral_parses_exactly (ds rest : List Char) (hne : ds ≠ [])
    (hd : ∀ c ∈ ds, isAsciiDigit c = true)
    (hr : ∀ c, rest.head? = some c → isNameChar c = false) :
    atom (ds ++ rest) =
      if digitsVal ds < 2^64 then some (.atom (.num (digitsVal ds)), rest) else none :=
  atom_numeral ds rest hne hd hr

example : atom "4294967296)".toList = some (.atom (.num 4294967296), [')']) := by decide
example : atom "007 ".toList = some (.atom (.num 7), [' ']) := by decide
example : atom "18446744073709551616)".toList = none := by decide

theorem numeral_value_lt (ds rest rest' : List Char) (n : Nat) (hne : ds ≠ [])
    (hd : ∀ c ∈ ds, isAsciiDigit c = true)
    (hr : ∀ c, rest.head? = some c → isNameChar c = false)
    (h : atom (ds ++ rest) = some (.atom (.num n), rest')) : n = digitsVal ds ∧ n < 2^64 ∧ rest' = rest := by
  rw [numeral_parses_exactly ds rest hne hd hr] at h
  split at h
  · simp only [Option.some.injEq, Prod.mk.injEq, Expr.atom.injEq, Prim.num.injEq] at h
    obtain ⟨rfl, rfl⟩ := h
    exact ⟨rfl, ‹_›, rfl⟩
  · cases h

theorem numeral_of_value (n : Nat) (hn : n < 2^64) (rest : List Char)
    (hr : ∀ c, rest.head? = some c → isNameChar c = false) :
    atom (Nat.toDigits 10 n ++ rest) = some (.atom (.num n), rest) := by
  rw [numeral_parses_exactly _ rest Nat.toDigits_ne_nil (toDigits_isAsciiDigit n) hr, Lang.digitsVal_repr,
    if_pos hn]

example : atom (Nat.toDigits 10 2147483647 ++ [')']) = some (.atom (.num 2147483647), [')']) :=
  numeral_of_value _ (by decide) _ (by decide)

/-- the same in operand position -/
theorem numeral_operand_parses_exactly (fuel : Nat) (ds rest : List Char) (c : Char)
    (hc : isNameChar c = false) (hne : ds ≠ []) (hd : ∀ c ∈ ds, isAsciiDigit c = true) :
    expr (fuel + 1) (ds ++ c :: rest) =
      if digitsVal ds < 2^64 then some (.atom (.num (digitsVal ds)), skipSpace (c :: rest)) else none :=
  expr_numeral fuel ds rest c hc hne hd

/-- `+infinity` is the largest 64-bit value -/
theorem infinity_parses (rest : List Char) :
    atom ("+infinity".toList ++ rest) = some (.atom (.num (2^64 - 1)), rest) :=
  atom_infinity rest

example : atom "+infinity)".toList = some (.atom (.num 18446744073709551615), [')']) := by decide

/-- the 32-bit immediate libccp reads is the literal itself below 2^31 and all-ones for `+infinity`;
nothing in `[2^31, 2^64-1)` has an encoding -/
theorem imm_encoding (n : Nat) :
    ((Reg.immNum n).classIdx =
      if n < 2^31 then .ok (1, n) else if n = 2^64 - 1 then .ok (1, 2^32 - 1) else .err) ∧
    ((Reg.immNum n).serialize =
      if n < 2^31 then .ok (1 :: le32 n) else if n = 2^64 - 1 then .ok [1, 255, 255, 255, 255] else .err) ∧
    (n < 2^31 → rd32 (le32 n) = n) ∧
    rd32 [255, 255, 255, 255] = 2^32 - 1 :=
  ⟨immNum_classIdx n, immNum_serialize n, fun h => rd32_le32 n (by omega), by decide⟩

/-- in terms of the oracle's `expectedImm` -/
theorem imm_encoding_expected (n : Nat) :
    (Reg.immNum n).serialize =
      match expectedImm n with
      | some w => .ok (1 :: le32 w)
      | none => .err := by
  rw [immNum_serialize, expectedImm]
  split
  · rfl
  · split
    · rfl
    · rfl

theorem expectedImm_lt {v w : Nat} (h : expectedImm v = some w) : w < 2^32 := by
  unfold expectedImm at h
  split at h
  · cases h; omega
  · split at h
    · cases h; decide
    · cases h

example : (Reg.immNum 2147483647).serialize = .ok [1, 255, 255, 255, 127] := by decide
example : (Reg.immNum 2147483648).serialize = .err := by decide
example : (Reg.immNum 4294967295).serialize = .err := by decide
example : (Reg.immNum 18446744073709551615).serialize = .ok [1, 255, 255, 255, 255] := by decide

/-! Where a literal ends up: an operand (`_atom`, `_combine`, `_bind`), a `Def` instruction (`_def_*`), an override
(`_override*`). -/

theorem literal_reaches_operand_atom (n : Nat) (sc : Scope) :
    compileExpr (.atom (.num n)) sc = .ok ⟨[], .immNum n, sc⟩ := rfl

theorem literal_reaches_operand_combine {o : Op} {instrs : List Instr} {l r : Reg} {sc : Scope} {c : CE}
    (hb : o ≠ .bind) (h : combine o instrs l r sc = .ok c) :
    ∃ i, c.instrs = instrs ++ [i] ∧ c.instrs.getLast? = some i ∧ i.left = l ∧ i.right = r := by
  rcases combine_inv h with ⟨ty, t, -, -, -, rfl⟩ | ⟨e, -⟩ | ⟨-, -, -, rfl⟩
  · exact ⟨_, rfl, by simp, rfl, rfl⟩
  · exact absurd e hb
  · exact ⟨_, rfl, by simp, rfl, rfl⟩

theorem literal_reaches_operand_bind {instrs : List Instr} {l r : Reg} {sc : Scope} {c : CE}
    (hr : r ≠ .none) (h : combine .bind instrs l r sc = .ok c) :
    ∃ i, c.instrs = instrs ++ [i] ∧ c.instrs.getLast? = some i ∧ i.op = .bind ∧ i.right = r := by
  rcases (combineBind_inv (show combineBind instrs l r sc = .ok c from h)).2 with ⟨e, -⟩ | ⟨-, -, hi⟩
  · exact absurd e hr
  · exact ⟨_, hi, by simp [hi], rfl, rfl⟩

example (sc : Scope) :
    combine .add [] (.tmp 0 (.num none)) (.immNum 7) sc =
      .ok ⟨[{ res := (sc.newTmp (.num none)).1, op := .add, left := .tmp 0 (.num none), right := .immNum 7 }],
           (sc.newTmp (.num none)).1, (sc.newTmp (.num none)).2⟩ := rfl

theorem literal_reaches_operand_def_report {l : List (Name × Reg)} {name : Name} {i n : Nat} {v : Bool}
    (h : (name, .report i (.num (some n)) v) ∈ l) :
    { res := .report i (.num (some n)) v, op := .def, left := .report i (.num (some n)) v,
      right := .immNum n } ∈ defInstrs l :=
  defInstrs_mem_of_num h rfl rfl

theorem literal_reaches_operand_def_control {l : List (Name × Reg)} {name : Name} {i n : Nat} {v : Bool}
    (h : (name, .control i (.num (some n)) v) ∈ l) :
    { res := .control i (.num (some n)) v, op := .def, left := .control i (.num (some n)) v,
      right := .immNum n } ∈ defInstrs l :=
  defInstrs_mem_of_num h rfl rfl

theorem literal_reaches_operand_def_shape {l : List (Name × Reg)} {ins : Instr} (h : ins ∈ defInstrs l) :
    ∃ name reg, (name, reg) ∈ l ∧ isRC reg = true ∧ ins.res = reg ∧ ins.left = reg ∧ ins.op = .def ∧
      ((∃ n, reg.getType = .num (some n) ∧ ins.right = .immNum n) ∨
       (∃ b, reg.getType = .bool (some b) ∧ ins.right = .immBool b)) := by
  obtain ⟨name, reg, hm, hrc, hh⟩ := defInstrs_shape h
  refine ⟨name, reg, hm, hrc, ?_⟩
  rcases hh with ⟨n, ht, rfl⟩ | ⟨b, ht, rfl⟩
  · exact ⟨rfl, rfl, rfl, .inl ⟨n, ht, rfl⟩⟩
  · exact ⟨rfl, rfl, rfl, .inr ⟨b, ht, rfl⟩⟩

theorem literal_reaches_operand_override {sc sc' : Scope} {n : Name} {v : Nat} {r : Reg}
    (h : sc.updateType n (.num (some v)) = .ok (r, sc')) :
    sc'.get n = some r ∧ r.getType = .num (some v) := by
  obtain ⟨r0, hg, hty, rfl⟩ := Scope.updateType_ok h
  exact ⟨(regGet_regSet_of_bound hg r n).trans (if_pos rfl), Reg.setTy_getType hty⟩

theorem literal_reaches_operand_override_def {sc sc' : Scope} {n : Name} {v : Nat} {r : Reg}
    (h : sc.updateType n (.num (some v)) = .ok (r, sc')) (hrc : isRC r = true) :
    { res := r, op := .def, left := r, right := .immNum v } ∈ defInstrs sc'.named := by
  obtain ⟨hg, ht⟩ := literal_reaches_operand_override h
  exact defInstrs_mem_of_num (regGet_some_mem hg) hrc ht

example : (scopeXC (.num (some 0))).updateType "c".toList (.num (some 5)) =
    .ok (.control 0 (.num (some 5)) false, scopeXC (.num (some 5))) := scopeXC_updateType _ _

/-- a serialized program contains no literal other than those below 2^31 and `+infinity` -/
theorem no_silent_truncation {bin : Bin} {bytes : Bytes} (h : bin.serialize = .ok bytes) :
    ∀ i ∈ bin.instrs, ∀ n, Reg.immNum n ∈ i.regs → n < 2^31 ∨ n = 2^64 - 1 := by
  obtain ⟨ib, hs, -⟩ := Bin.serialize_ok h
  intro i hi n hn
  obtain ⟨b, hb⟩ := serializeInstrs_ok_mem hs i hi
  obtain ⟨c, x, hc⟩ := Instr.serialize_ok_regs hb _ hn
  exact (classIdx_immNum.mp hc).1.symm

/-- the instruction records libccp reads from the image (followed by anything) -/
def readBack (bin : Bin) (bytes rest : Bytes) : List Libccp.InstrMsg :=
  Libccp.readInstrs bin.instrs.length (bytes.drop (16 * bin.events.length) ++ rest)

/-- for each literal operand libccp reads class 1 and the expected immediate -/
theorem literal_read_back {bin : Bin} {bytes : Bytes} (h : bin.serialize = .ok bytes) (rest : Bytes) :
    (readBack bin bytes rest).length = bin.instrs.length ∧
    ∀ (k : Nat) (i : Instr) (m : Libccp.InstrMsg), bin.instrs[k]? = some i → (readBack bin bytes rest)[k]? = some m →
      ∀ n, (i.res = .immNum n → m.resT = 1 ∧ expectedImm n = some m.resI) ∧
           (i.left = .immNum n → m.leftT = 1 ∧ expectedImm n = some m.leftI) ∧
           (i.right = .immNum n → m.rightT = 1 ∧ expectedImm n = some m.rightI) := by
  obtain ⟨ib, hs, rfl⟩ := Bin.serialize_ok h
  have hd : (bin.events.flatMap EvRec.serialize ++ ib).drop (16 * bin.events.length) = ib := by
    rw [← events_bytes_length, List.drop_left]
  obtain ⟨-, hm⟩ := readInstrs_serialize bin.instrs ib rest hs
  unfold readBack
  rw [hd]
  obtain ⟨hl, hg⟩ := instrsMatch_iff.mp hm
  refine ⟨hl, ?_⟩
  intro k i m hi hmk n
  obtain ⟨-, e1, e2, e3⟩ := hg k i m hi hmk
  have key : ∀ {c x : Nat}, (Reg.immNum n).classIdx = .ok (c, x) → c = 1 ∧ expectedImm n = some x := by
    intro c x hc
    obtain ⟨h, h1, rfl⟩ := classIdx_immNum.mp hc
    refine ⟨h1, ?_⟩
    unfold expectedImm
    rcases h with rfl | a
    · rfl
    · rw [if_pos a, Nat.mod_eq_of_lt (by omega)]
  refine ⟨fun e => ?_, fun e => ?_, fun e => ?_⟩
  · rw [e] at e1; exact key e1
  · rw [e] at e2; exact key e2
  · rw [e] at e3; exact key e3

/-- conversely: a literal the immediate field cannot hold makes serialization fail -/
theorem literal_too_big_rejected {bin : Bin} {i : Instr} {n : Nat} (hi : i ∈ bin.instrs)
    (hn : Reg.immNum n ∈ i.regs) (h1 : 2^31 ≤ n) (h2 : n ≠ 2^64 - 1) :
    ∀ bytes, bin.serialize ≠ .ok bytes := by
  intro bytes h
  rcases no_silent_truncation h i hi n hn with a | a
  · omega
  · exact h2 a

/-- … with an error (not a panic) when no instruction has an unbound placeholder operand or an
unlowered `And`/`Or` — which is the case for every program the compiler emits (`compileProg_clean`) -/
theorem literal_too_big_rejected_err {bin : Bin} {i : Instr} {n : Nat} (hi : i ∈ bin.instrs)
    (hn : Reg.immNum n ∈ i.regs) (h1 : 2^31 ≤ n) (h2 : n ≠ 2^64 - 1)
    (hclean : ∀ j ∈ bin.instrs, j.clean) :
    bin.serialize = .err := by
  cases hs : bin.serialize with
  | ok b => exact absurd hs (literal_too_big_rejected hi hn h1 h2 b)
  | err => rfl
  | panic => exact absurd hs (Bin.serialize_ne_panic hclean)

example : (Bin.mk [] [{ res := .tmp 0 (.num none), op := .add, left := .immNum 5, right := .immNum 4294967296 }]).serialize
    = .err := by decide
example : (Bin.mk [] [{ res := .tmp 0 (.num none), op := .add, left := .immNum 5, right := .immNum 6 }]).serialize
    = .ok [0, 7, 0, 0, 0, 0, 1, 5, 0, 0, 0, 1, 6, 0, 0, 0] := by decide

/-- the image the model produces for a template and an encodable literal with immediate `w` -/
def templateImage (pos : Pos) (w : Nat) : Bytes :=
  match pos with
  | .operand => operandPre ++ (1 :: le32 w)
  | .definition => definitionPre ++ (1 :: le32 w) ++ tailInstrs
  | .override => overridePre ++ (1 :: le32 w) ++ tailInstrs

theorem check_of_image (pos : Pos) (v : Option Nat) (pre post : Bytes) (hlen : pre.length = litOffset pos) :
    check pos v (match v.bind expectedImm with
      | some w => .ok (pre ++ (1 :: le32 w) ++ post)
      | none => .err) = true := by
  cases hv : v.bind expectedImm with
  | none => simp [check, hv]
  | some w =>
    have hw : w < 2^32 := by
      cases v with
      | none => cases hv
      | some n => exact expectedImm_lt hv
    have h1 : bAt (pre ++ (1 :: le32 w) ++ post) (litOffset pos) = 1 := by
      rw [← hlen]
      simp [bAt, List.getD_eq_getElem?_getD]
    have h2 : (pre ++ (1 :: le32 w) ++ post).drop (litOffset pos + 1) = le32 w ++ post := by
      rw [← hlen, List.append_assoc, List.drop_append]
      simp
    have h3 : rd32 (le32 w ++ post) = w := by
      rw [rd32_le32_append]; omega
    simp only [check, hv, h1, h2, h3, beq_self_eq_true, Bool.and_true, decide_eq_true_eq]
    simp only [List.length_append, List.length_cons, le32_length, hlen]
    omega

/-- the model's image of each template, in closed form -/
theorem model_image_operand (ds : List Char) (hne : ds ≠ []) (hd : ∀ c ∈ ds, isAsciiDigit c = true) :
    imageOf (compileAndSerialize 1 (template .operand ds) []) =
      match (if digitsVal ds < 2^64 then some (digitsVal ds) else none).bind expectedImm with
      | some w => .ok (templateImage .operand w)
      | none => .err := by
  by_cases hlt : digitsVal ds < 2^64
  · rw [template, compileAndSerialize_eq (upd := []) (parse_operand_ok ds hne hd hlt) (declare_x _)
      (compileProg_operand _), serialize_operandBin, imm_encoding_expected, if_pos hlt, Option.bind_some]
    cases expectedImm (digitsVal ds) <;> rfl
  · rw [template, compileAndSerialize_of_parse_none (parse_operand_big ds hne hd hlt), if_neg hlt]
    rfl

theorem model_image_definition (ds : List Char) (hne : ds ≠ []) (hd : ∀ c ∈ ds, isAsciiDigit c = true) :
    imageOf (compileAndSerialize 1 (template .definition ds) []) =
      match (if digitsVal ds < 2^64 then some (digitsVal ds) else none).bind expectedImm with
      | some w => .ok (templateImage .definition w)
      | none => .err := by
  by_cases hlt : digitsVal ds < 2^64
  · rw [template, compileAndSerialize_eq (upd := []) (parse_definition_ok ds hne hd hlt) (declare_x _)
      (compileProg_definition _), serialize_definitionBin, imm_encoding_expected, if_pos hlt, Option.bind_some]
    cases expectedImm (digitsVal ds) <;> rfl
  · rw [template, compileAndSerialize_of_parse_none (parse_definition_big ds hne hd hlt), if_neg hlt]
    rfl

theorem model_image_override (v : Nat) :
    imageOf (compileAndSerialize 1 (template .override []) [("c".toList, v)]) =
      match expectedImm v with
      | some w => .ok (templateImage .override w)
      | none => .err := by
  rw [template, compileAndSerialize_eq parse_override declare_xc
    (by rw [applyUpdates_single (scopeXC_updateType _ _)]; exact compileProg_override v), serialize_overrideBin, imm_encoding_expected]
  cases expectedImm v <;> rfl

/-- the oracle accepts what the model produces -/
theorem check_model_operand (ds : List Char) (hne : ds ≠ []) (hd : ∀ c ∈ ds, isAsciiDigit c = true) :
    check .operand (if digitsVal ds < 2^64 then some (digitsVal ds) else none)
      (imageOf (compileAndSerialize 1 (template .operand ds) [])) = true := by
  rw [model_image_operand ds hne hd]
  have := check_of_image .operand (if digitsVal ds < 2^64 then some (digitsVal ds) else none) operandPre [] (by decide)
  simpa [templateImage] using this

theorem check_model_definition (ds : List Char) (hne : ds ≠ []) (hd : ∀ c ∈ ds, isAsciiDigit c = true) :
    check .definition (if digitsVal ds < 2^64 then some (digitsVal ds) else none)
      (imageOf (compileAndSerialize 1 (template .definition ds) [])) = true := by
  rw [model_image_definition ds hne hd]
  exact check_of_image .definition _ definitionPre tailInstrs (by decide)

theorem check_model_override (v : Nat) :
    check .override (some v) (imageOf (compileAndSerialize 1 (template .override []) [("c".toList, v)])) = true := by
  rw [model_image_override v]
  exact check_of_image .override (some v) overridePre tailInstrs (by decide)

theorem literal_below_2_31_accepted (ds : List Char) (hne : ds ≠ []) (hd : ∀ c ∈ ds, isAsciiDigit c = true)
    (h : digitsVal ds < 2^31) :
    imageOf (compileAndSerialize 1 (template .operand ds) []) = .ok (templateImage .operand (digitsVal ds)) ∧
    imageOf (compileAndSerialize 1 (template .definition ds) []) = .ok (templateImage .definition (digitsVal ds)) := by
  have hlt : digitsVal ds < 2^64 := by omega
  have he : expectedImm (digitsVal ds) = some (digitsVal ds) := by simp [expectedImm, h]
  rw [model_image_operand ds hne hd, model_image_definition ds hne hd]
  simp only [if_pos hlt, Option.bind_some, he, and_self]

theorem literal_unencodable_refused (ds : List Char) (hne : ds ≠ []) (hd : ∀ c ∈ ds, isAsciiDigit c = true)
    (h1 : 2^31 ≤ digitsVal ds) (h2 : digitsVal ds ≠ 2^64 - 1) :
    imageOf (compileAndSerialize 1 (template .operand ds) []) = .err ∧
    imageOf (compileAndSerialize 1 (template .definition ds) []) = .err := by
  have he : (if digitsVal ds < 2^64 then some (digitsVal ds) else none).bind expectedImm = none := by
    split
    · have : ¬ digitsVal ds < 2^31 := by omega
      simp [expectedImm, this, h2]
    · rfl
  rw [model_image_operand ds hne hd, model_image_definition ds hne hd]
  simp only [he, and_self]

/-- the decimal numeral for the largest 64-bit value is `+infinity`: all-ones immediate -/
example : imageOf (compileAndSerialize 1 (template .operand "18446744073709551615".toList) []) =
    .ok (templateImage .operand 4294967295) := by decide +kernel

/-- the oracle refuses a wrapped, a truncated and a silently accepted literal -/
example : check .operand (some 4294967296) (.ok (templateImage .operand 0)) = false := by decide
example : check .operand (some 5) (.ok (templateImage .operand 6)) = false := by decide
example : check .definition (some 2147483648) (.ok (templateImage .definition 2147483648)) = false := by decide
example : check .override (some 4294967295) (.ok (templateImage .override 4294967295)) = false := by decide
example : check .operand none (.ok (templateImage .operand 0)) = false := by decide
example : check .operand (some 5) (.ok (templateImage .operand 5)) = true := by decide
example : check .definition (some 18446744073709551615) (.ok (templateImage .definition 4294967295)) = true := by
  decide

end Portus.C14
