import PortusModel.Lang.Fragment
/-!
# A declarative well-typedness check for the portus DSL (C20, acceptance half)

Nothing in this file mentions scopes, registers or instructions: a program is a list of parsed
declarations `ds : List Decl` and (desugared) events `evs : List Event`, a typing environment maps
names to a *kind* (who may assign to it) and a *type* (`Num` or `Bool`).

`WellTyped ds evs : Bool` is the whole check. `Lemmas/Accept.lean`, `AcceptValue.lean`, `AcceptProg.lean`
prove that every parsed program that passes it is accepted by `compile` and by `Bin.serialize`.

Rules that are dictated by the compiler rather than by a natural reading of the grammar are kept
as separate, named definitions:

* `noBareBoolCondition` – a `when` condition must be `true`, `false` or an operator node; a bare
  Bool *variable* (`(when Flow.was_timeout …)`, `(when flag …)`) is rejected by `compile_flag`.
* `guardedTargetDeclared` – the target of `(:= x (if c v))`, `(:= x (!if c v))`, `(:= x (ewma a v))`
  must be a declared (Report / control) variable: a local, `Cwnd`, `Rate`, … is rejected by the
  `Op::Bind` arm (`bindEmit`, right operand `Reg::None`).
* `notReadOnly` – `Ack.*` / `Flow.*` primitives cannot be assigned.
* `knownTargetType` – the value of `(:= x e)` used inside an expression, `x` already known, has the type
  recorded for `x`, not the type of `e` (the compiler's value of a bind is the *register of the target*).

* `noBindCondition` – the top node of a `when` condition must not be an assignment (assignments *inside*
  the operands of the top operator are fine): `compile_flag` wants the flag block to end in a temporary.

An assignment – plain, or guarded (`if` / `!if` / `ewma` into a declared variable) – may be used **as a
value** inside an expression, and inside a `when` condition (`typeOfG`, `typeOfV`, `checkStmtV`,
`checkCondV`, … below); the former check, which confines assignments to statement level, is kept as
`WellTypedStratified` (`typeOf`, `checkStmt`, …) and is the restriction of `WellTyped` to
`Frag.Stratified` programs (`Lemmas/AcceptProg.lean`, `wellTyped_eq`).
-/
namespace Portus.Lang.Typing
open Portus Portus.Lang

/-! ## Types, kinds, environments -/

/-- the two value types of the language -/
inductive Ty where
  | num
  | bool
deriving Repr, DecidableEq, Inhabited

/-- who owns a name: a read-only datapath primitive (`Ack.*`, `Flow.*`), an implicit register
(`Cwnd`, `Rate`, `Micros`, `__eventFlag`, `__shouldContinue`, `__shouldReport`), a declared variable
(`(def …)`: Report or control, volatile or not), or a local created by its first assignment -/
inductive Kind where
  | prim
  | impl
  | var
  | loc
deriving Repr, DecidableEq, Inhabited

/-- typing environment; the first entry for a name counts -/
abbrev Env := List (Name × Kind × Ty)

def lookup (x : Name) : Env → Option (Kind × Ty)
  | [] => none
  | (y, kt) :: rest => if y = x then some kt else lookup x rest

/-- `Type::Bool(_)` ↦ `Bool`, everything else in the built-in tables is `Type::Num(_)` -/
def builtinTy : Lang.Ty → Ty
  | .bool _ => .bool
  | _ => .num

/-- the built-in names, read off the two tables `Scope::new()` is filled from -/
def builtinEnv : Env :=
  primitiveNames.map (fun p => (p.1.toList, Kind.prim, builtinTy p.2)) ++
  implicitNames.map (fun p => (p.1.toList, Kind.impl, builtinTy p.2))

/-- … spelled out -/
example : builtinEnv =
    [ ("Ack.bytes_acked".toList, .prim, .num), ("Ack.bytes_misordered".toList, .prim, .num),
      ("Ack.ecn_bytes".toList, .prim, .num), ("Ack.ecn_packets".toList, .prim, .num),
      ("Ack.lost_pkts_sample".toList, .prim, .num), ("Ack.now".toList, .prim, .num),
      ("Ack.packets_acked".toList, .prim, .num), ("Ack.packets_misordered".toList, .prim, .num),
      ("Flow.bytes_in_flight".toList, .prim, .num), ("Flow.bytes_pending".toList, .prim, .num),
      ("Flow.packets_in_flight".toList, .prim, .num), ("Flow.rate_incoming".toList, .prim, .num),
      ("Flow.rate_outgoing".toList, .prim, .num), ("Flow.rtt_sample_us".toList, .prim, .num),
      ("Flow.was_timeout".toList, .prim, .bool),
      ("__eventFlag".toList, .impl, .bool), ("__shouldContinue".toList, .impl, .bool),
      ("__shouldReport".toList, .impl, .bool),
      ("Micros".toList, .impl, .num), ("Cwnd".toList, .impl, .num), ("Rate".toList, .impl, .num) ] := by
  decide

/-! ## Limits (all from the encoder, `Reg.classIdx`: index ≤ 15 / ≤ 5 / ≤ 7) -/

def maxReports : Nat := 16
def maxControls : Nat := 16
def maxLocals : Nat := 6
def maxTmps : Nat := 8

/-- a numeric literal the immediate field can hold: `< 2^31`, or `+infinity` -/
def litOk (n : Nat) : Bool := decide (n < 2^31) || decide (n = 2^64 - 1)

/-! ## Pure expressions -/

/-- operand type and result type of the operators of pure expressions; `:=`, `if`, `!if`, `ewma`
(and the internal `def`) are statement forms, not operators -/
def opSig : Op → Option (Ty × Ty)
  | .add | .sub | .mul | .div | .max | .min | .maxWrap => some (.num, .num)
  | .equiv | .lt | .gt => some (.num, .bool)
  | .and | .or => some (.bool, .bool)
  | _ => none

/-- the type of a pure expression; `none` = ill typed (unknown name, operand of the wrong type,
or not a pure expression at all) -/
def typeOf (Γ : Env) : Expr → Option Ty
  | .atom (.bool _) => some .bool
  | .atom (.num _) => some .num
  | .atom (.name x) => (lookup x Γ).map (·.2)
  | .sexp o l r =>
    match opSig o, typeOf Γ l, typeOf Γ r with
    | some (a, res), some tl, some tr => if tl = a ∧ tr = a then some res else none
    | _, _, _ => none
  | _ => none

/-- number of temporaries a (statement or condition) needs: one per operator node that computes a
value (`:=`, `if`, `!if`, `ewma` compute into their target, not into a temporary) -/
def tmps : Expr → Nat
  | .sexp o l r => (if (opSig o).isSome then 1 else 0) + tmps l + tmps r
  | _ => 0

/-! ## Statements, assignments at statement level only (the former check, `WellTypedStratified`) -/

def numLocals (Γ : Env) : Nat := Γ.countP fun e => decide (e.2.1 = Kind.loc)

/-- primitives are read-only -/
def notReadOnly (k : Kind) : Bool := decide (k ≠ Kind.prim)

/-- `(:= x e)`, `e` pure of type `τ`: a known `x` must not be a primitive (the compiler does not
compare the types of `x` and `e`, and neither do we); an unknown `x` becomes a new local of type `τ` -/
def checkPlain (Γ : Env) (x : Name) (e : Expr) : Option Env :=
  match typeOf Γ e with
  | none => none
  | some τ =>
    match lookup x Γ with
    | some (k, _) => if notReadOnly k then some Γ else none
    | none => if numLocals Γ < maxLocals then some ((x, Kind.loc, τ) :: Γ) else none

/-- the target of a conditional / ewma assignment must be a declared variable -/
def guardedTargetDeclared (Γ : Env) (x : Name) : Bool :=
  match lookup x Γ with
  | some (k, _) => decide (k = Kind.var)
  | none => false

/-- `(:= x (if c v))`, `(:= x (!if c v))`: `c : Bool`, `v` pure of any type -/
def checkGuarded (Γ : Env) (x : Name) (c v : Expr) : Option Env :=
  if guardedTargetDeclared Γ x && decide (typeOf Γ c = some Ty.bool) && (typeOf Γ v).isSome then some Γ else none

/-- `(:= x (ewma a v))`: `a : Num`, `v : Num` -/
def checkEwma (Γ : Env) (x : Name) (a v : Expr) : Option Env :=
  if guardedTargetDeclared Γ x && decide (typeOf Γ a = some Ty.num) && decide (typeOf Γ v = some Ty.num) then some Γ
  else none

/-- the right-hand side of an assignment to `x` -/
def checkRhs (Γ : Env) (x : Name) : Expr → Option Env
  | .sexp o l r =>
    match o with
    | .if => checkGuarded Γ x l r
    | .notIf => checkGuarded Γ x l r
    | .ewma => checkEwma Γ x l r
    | _ => checkPlain Γ x (.sexp o l r)
  | e => checkPlain Γ x e

/-- one statement of an event body; the result is the environment for the next statement.
`(report)` and `(fallthrough)` arrive here desugared (`(:= __shouldReport true)`,
`(:= __shouldContinue true)`); comments are `Expr.none`. -/
def checkStmt (Γ : Env) : Expr → Option Env
  | .none => some Γ
  | .sexp .bind (.atom (.name x)) rhs => if tmps rhs ≤ maxTmps then checkRhs Γ x rhs else none
  | _ => none

def checkBody (Γ : Env) : List Expr → Option Env
  | [] => some Γ
  | s :: rest =>
    match checkStmt Γ s with
    | some Γ' => checkBody Γ' rest
    | none => none

/-! ## Assignments used as values

`(:= x r)` may occur wherever a value is expected: `(:= Report.out (+ a (:= Report.saved b)))`. The
compiler (`compile_expr`, `Op::Bind` arm: `bindTarget`, `bindEmit`) compiles the *target first*, then
`r`, and yields the register of the target. Typing therefore threads the environment through an
expression, left operand before right operand, and the rule of a nested assignment is the rule of the
statement-level assignment (`checkPlain`) with two refinements the compiler dictates:

* the target is looked up in the environment *before* `r` (`Γ`), the outcome is recorded in the
  environment *after* `r` (`Γ'`);
* if `x` is new at the assignment but `r` itself assigns `x` (`(:= x (> (:= x 1) 0))`), no second
  local is created: the outer assignment re-types the local the inner one created (`setTy`).

A **guarded** assignment `(:= x (if c v))`, `(:= x (!if c v))`, `(:= x (ewma a v))` may occur as a value
too: `(:= Report.a (+ 1 (:= Report.b (if (> Ack.bytes_acked 0) 5))))`. The compiler compiles the guarded
form into an instruction without result register and yields a placeholder (`Reg::None`); the only
consumer of a placeholder is the `Op::Bind` arm with a Report / control register on the left
(`bindEmit`), which makes that register the result of the instruction and yields it. So the nested
form is `(:= x (if c v))` as an operand – never a bare `(if c v)` operand – with `x` declared
(`guardedTargetDeclared`), and its type is the type recorded for `x` (`bindGuarded`).

No hazard condition (`Frag.noHazard`) is needed for *acceptance*: the compiler accepts
`(:= x (+ (:= x 1) (:= x 2)))`, and so does the check. The temporaries count `tmps` is unchanged:
a bind allocates none. -/

/-- re-type the entries of `x`; kinds (hence `numLocals`) are kept -/
def setTy (x : Name) (τ : Ty) (Γ : Env) : Env :=
  Γ.map fun e => if e.1 = x then (e.1, e.2.1, τ) else e

/-- **named rule.** `(:= x e)` as a value, `x` known with recorded type `τx`, `e : τ`: the value is the
register of `x`, whose recorded type the assignment does not change – so the type is `τx`, whatever
`τ` is (the compiler does not compare them: `(+ (:= Report.n true) 1)` is accepted for `n : Num`,
`(&& (:= Report.n true) true)` is rejected). -/
def knownTargetType (τx _τ : Ty) : Ty := τx

/-- the `Op::Bind` arm on a plain right-hand side of type `τ`. `Γ`: the environment the target was
looked up in (before the right-hand side), `Γ'`: the environment after the right-hand side.
* `x` known: must not be read-only (`notReadOnly`); value of type `knownTargetType τx τ`;
* `x` unknown before the right-hand side but assigned inside it: that local is re-typed to `τ`;
* `x` unknown: a new local of type `τ`, if there are fewer than `maxLocals` already. -/
def bindValue (Γ Γ' : Env) (x : Name) (τ : Ty) : Option (Ty × Env) :=
  match lookup x Γ with
  | some (k, τx) => if notReadOnly k then some (knownTargetType τx τ, Γ') else none
  | none =>
    match lookup x Γ' with
    | some _ => some (τ, setTy x τ Γ')
    | none => if numLocals Γ' < maxLocals then some (τ, (x, Kind.loc, τ) :: Γ') else none

/-- the name assigned by an operator node, if it is a plain assignment to a name -/
def bindName : Op → Expr → Option Name
  | .bind, .atom (.name x) => some x
  | _, _ => none

/-- **named rule.** operand types of the guarded forms: `(if c v)`, `(!if c v)`: `c : Bool`, `v` of any
type; `(ewma a v)`: `a : Num`, `v : Num`. (The compiler itself only wants two *values* here – neither
operand may be an unbound placeholder –; the types are what the datapath expects.) -/
def guardOk : Op → Ty → Ty → Bool
  | .if, .bool, _ => true
  | .notIf, .bool, _ => true
  | .ewma, .num, .num => true
  | _, _, _ => false

/-- the `Op::Bind` arm on a *guarded* right-hand side (`(:= x (if c v))`, `(:= x (!if c v))`,
`(:= x (ewma a v))`; the right operand is the placeholder `Reg::None`). `Γ`: the environment the target
was looked up in, `Γ'`: the environment after the right-hand side. The target must be a declared
(Report / control) variable (`guardedTargetDeclared`); the value is the register of `x`, of the type
recorded for `x`. -/
def bindGuarded (Γ Γ' : Env) (x : Name) : Option (Option Ty × Env) :=
  if guardedTargetDeclared Γ x then (lookup x Γ).map fun kt => (some kt.2, Γ') else none

/-- typing of an expression *as the compiler compiles it*, and the environment it leaves; operands left
to right. The outcome is either a value of a type (`some τ`: operators over atoms and nested
assignments) or the **unbound placeholder** of a guarded form (`none`: `(if c v)`, `(!if c v)`,
`(ewma a v)`, the compiler's `Reg::None`). A placeholder is accepted in exactly one place: as the
right-hand side of an assignment to a declared variable (`bindGuarded`); an operator, a guarded form
or an assignment to anything else refuses it. The overall answer `none` = ill typed. -/
def typeOfG (Γ : Env) : Expr → Option (Option Ty × Env)
  | .atom (.bool _) => some (some .bool, Γ)
  | .atom (.num _) => some (some .num, Γ)
  | .atom (.name x) => (lookup x Γ).map fun kt => (some kt.2, Γ)
  | .sexp o l r =>
    match opSig o with
    | some (a, res) =>
      match typeOfG Γ l with
      | some (some tl, Γ1) =>
        match typeOfG Γ1 r with
        | some (some tr, Γ2) => if tl = a ∧ tr = a then some (some res, Γ2) else none
        | _ => none
      | _ => none
    | none =>
      match bindName o l with
      | some x =>
        match typeOfG Γ r with
        | some (some τ, Γ') => (bindValue Γ Γ' x τ).map fun p => (some p.1, p.2)
        | some (none, Γ') => bindGuarded Γ Γ' x
        | none => none
      | none =>
        match typeOfG Γ l with
        | some (some tl, Γ1) =>
          match typeOfG Γ1 r with
          | some (some tr, Γ2) => if guardOk o tl tr then some (none, Γ2) else none
          | _ => none
        | _ => none
  | _ => none

/-- type of a *value* expression (operators over atoms and nested assignments, plain or guarded) and
the environment it leaves. `none` = ill typed, or not a value (a bare `(if c v)`, `(!if c v)`,
`(ewma a v)` is a placeholder, not a value). -/
def typeOfV (Γ : Env) (e : Expr) : Option (Ty × Env) :=
  match typeOfG Γ e with
  | some (some τ, Γ') => some (τ, Γ')
  | _ => none

/-- `(:= x e)` as a statement: the same rule as in value position -/
def checkPlainV (Γ : Env) (x : Name) (e : Expr) : Option Env :=
  match typeOfV Γ e with
  | some (τ, Γ') => (bindValue Γ Γ' x τ).map (·.2)
  | none => none

/-- `(:= x (if c v))`, `(:= x (!if c v))`: `c : Bool`, then `v` of any type -/
def checkGuardedV (Γ : Env) (x : Name) (c v : Expr) : Option Env :=
  if guardedTargetDeclared Γ x then
    match typeOfV Γ c with
    | some (Ty.bool, Γ1) => (typeOfV Γ1 v).map (·.2)
    | _ => none
  else none

/-- `(:= x (ewma a v))`: `a : Num`, then `v : Num` -/
def checkEwmaV (Γ : Env) (x : Name) (a v : Expr) : Option Env :=
  if guardedTargetDeclared Γ x then
    match typeOfV Γ a with
    | some (Ty.num, Γ1) =>
      match typeOfV Γ1 v with
      | some (Ty.num, Γ2) => some Γ2
      | _ => none
    | _ => none
  else none

def checkRhsV (Γ : Env) (x : Name) : Expr → Option Env
  | .sexp o l r =>
    match o with
    | .if => checkGuardedV Γ x l r
    | .notIf => checkGuardedV Γ x l r
    | .ewma => checkEwmaV Γ x l r
    | _ => checkPlainV Γ x (.sexp o l r)
  | e => checkPlainV Γ x e

/-- one statement; at most `maxTmps` temporaries per statement, nested assignments included.
(`checkRhsV` spells out the three shapes of a statement; it is the value rule applied to the statement:
`checkRhsV Γ x rhs = (typeOfV Γ (:= x rhs)).map (·.2)`, `Lemmas/AcceptValue.lean`, `checkRhsV_eq`.) -/
def checkStmtV (Γ : Env) : Expr → Option Env
  | .none => some Γ
  | .sexp .bind (.atom (.name x)) rhs => if tmps rhs ≤ maxTmps then checkRhsV Γ x rhs else none
  | _ => none

def checkBodyV (Γ : Env) : List Expr → Option Env
  | [] => some Γ
  | s :: rest =>
    match checkStmtV Γ s with
    | some Γ' => checkBodyV Γ' rest
    | none => none

/-! ## Conditions and events -/

/-- `compile_flag` accepts a boolean literal or an operator node, not a bare boolean variable -/
def noBareBoolCondition : Expr → Bool
  | .atom (.bool _) => true
  | .sexp _ _ _ => true
  | _ => false

def checkCond (Γ : Env) (c : Expr) : Bool :=
  decide (typeOf Γ c = some Ty.bool) && noBareBoolCondition c && decide (tmps c ≤ maxTmps)

/-- events in program order, the condition before the body; locals created in one event are known
in the following ones -/
def checkEvents (Γ : Env) : List Event → Option Env
  | [] => some Γ
  | ev :: rest =>
    if checkCond Γ ev.flag then
      match checkBody Γ ev.body with
      | some Γ' => checkEvents Γ' rest
      | none => none
    else none

/-- **named rule.** the top node of a condition must not be an assignment: `compile_flag` makes the
last instruction of the flag block write `__eventFlag`, and only accepts a block whose value is a
*temporary* (or a boolean literal). `(when (:= flag (> Ack.bytes_acked 0)) …)` yields the register of
`flag` and is rejected; `(when (&& (:= flag (> Ack.bytes_acked 0)) true) …)` yields a temporary and is
accepted. (A guarded form at the top is not a value at all.) -/
def noBindCondition : Expr → Bool
  | .sexp o _ _ => (opSig o).isSome
  | _ => true

/-- a condition with assignments allowed as values in the operands of its top operator; the result
is the environment the event body is typed in (a condition may create locals) -/
def checkCondV (Γ : Env) (c : Expr) : Option Env :=
  match typeOfV Γ c with
  | some (Ty.bool, Γ') =>
    if noBareBoolCondition c && noBindCondition c && decide (tmps c ≤ maxTmps) then some Γ' else none
  | _ => none

/-- the same with assignments allowed as values, in the bodies and in the conditions; the environment
is threaded through the condition into the body -/
def checkEventsV (Γ : Env) : List Event → Option Env
  | [] => some Γ
  | ev :: rest =>
    match checkCondV Γ ev.flag with
    | some Γ0 =>
      match checkBodyV Γ0 ev.body with
      | some Γ' => checkEventsV Γ' rest
      | none => none
    | none => none

/-! ## Declarations -/

/-- the type of a declared variable is the type of its literal initial value -/
def declTy : Lang.Ty → Option Ty
  | .num (some n) => if litOk n then some .num else none
  | .bool (some _) => some .bool
  | _ => none

def declOk (d : Decl) : Bool :=
  (declTy d.init).isSome && !Frag.isBuiltinName d.var && !("__".toList.isPrefixOf d.var)

/-- literal, in-range initial values; distinct names, none built-in or starting with `__`; at most
16 Report variables and 16 control variables (volatile or not) -/
def declsOk (ds : List Decl) : Bool :=
  ds.all declOk && decide ((ds.map (·.var)).Nodup) &&
  decide ((ds.filter fun d => "Report.".toList.isPrefixOf d.var).length ≤ maxReports) &&
  decide ((ds.filter fun d => !("Report.".toList.isPrefixOf d.var)).length ≤ maxControls)

def declEnv (ds : List Decl) : Env := ds.map fun d => (d.var, Kind.var, (declTy d.init).getD Ty.num)

def initEnv (ds : List Decl) : Env := declEnv ds ++ builtinEnv

/-- **The check.** Well-formed declarations, numeric literals that fit the immediate field (those
inside nested assignments included), and every event well typed in the environment left by what
precedes it (condition, then body). Nothing else is needed: `checkStmtV` / `typeOfV` / `checkCondV`
answer `none` on anything that is not an assignment statement over value expressions (a superset of
the shape `Frag.stmtOk2`: assignments inside conditions, and assignments to built-in registers used as
values, are outside the fragment of the semantic theorem), and the hazard part of `Frag.stmtOk2` matters for the
semantics, not for acceptance – the compiler accepts hazardous nestings. -/
def WellTyped (ds : List Decl) (evs : List Event) : Bool :=
  declsOk ds && Frag.LitsOk evs && (checkEventsV (initEnv ds) evs).isSome

/-- the former check: assignments at statement level only (`Frag.Stratified`) -/
def WellTypedStratified (ds : List Decl) (evs : List Event) : Bool :=
  declsOk ds && Frag.Stratified evs && Frag.LitsOk evs && (checkEvents (initEnv ds) evs).isSome

/-- a well-formed list of compile-time overrides `(name, value)`: the values fit the immediate
field, and no override gives a number to a `Bool` variable (overrides of unknown names and of
built-in names are ignored by the compiler) -/
def updOk (ds : List Decl) (upd : List (Name × Nat)) : Bool :=
  upd.all fun p => litOk p.2 &&
    (match lookup p.1 (initEnv ds) with
     | some (k, τ) => decide (k = Kind.prim) || decide (k = Kind.impl) || decide (τ = Ty.num)
     | none => true)

end Portus.Lang.Typing
