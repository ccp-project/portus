import PortusModel.Lemmas.RtStep
/-!
# C02 — every flow event reaches exactly the right flow handler, exactly once

The runtime state is abstracted to the flat partial map `cur st : (address, flow id) ⇀ flow`
(`curNo` = the flow's creation number). Each theorem describes one message kind against that map; key
uniqueness is preserved by every step (the `WfSt st'` conjuncts), so the statements hold after
every finite message history (`Props/C02History`). `isCallback` selects the callback events (new_flow, on_report, close,
drop); everything else in a step's events is transport traffic and log lines caused by user code.
-/
namespace Portus.C02
open Portus Portus.Wire Portus.Ipc Portus.Rt

theorem other_ignored {σ : Type} (cfg : Cfg) (pol : Policy σ) (st : St σ) (addr : Addr) (r : Raw) :
    step cfg pol st addr (.other r) = .ok (.cont st []) := rfl

/-- **Unknown targets invoke nothing**: a measurement (empty or not) for a pair that is not currently
registered — never created, already closed, or dropped by a restart. -/
theorem measure_unknown_ignored {σ : Type} (cfg : Cfg) (pol : Policy σ) (st : St σ) (addr : Addr) (m : Measure)
    (h : cur st addr m.sid = none) : step cfg pol st addr (.ms m) = .ok (.cont st []) :=
  stepMs_unknown cfg pol st addr m h

/-- **A non-empty measurement goes to the current handler, once, intact.** -/
theorem report_delivered {σ : Type} (cfg : Cfg) (pol : Policy σ) (hb : pol.Bounded) (st : St σ) (hw : WfSt st)
    (addr : Addr) (m : Measure) (f : Flow σ) (h : cur st addr m.sid = some f) (hn : m.numFields ≠ 0) :
    ∃ st' evs, step cfg pol st addr (.ms m) = .ok (.cont st' (.report f.no m.sid m.uid m.fields :: evs)) ∧
      (∀ e ∈ evs, UserEv addr m.sid f.no e) ∧ evs.filter isCallback = [] ∧
      (∀ a s, curNo st' a s = curNo st a s) ∧ st'.nextFlow = st.nextFlow ∧ WfSt st' := by
  obtain ⟨r, hr, hs⟩ := step_stepped cfg pol hb st addr (.ms m)
  cases hs with
  | unknown _ hc => rw [h] at hc; cases hc
  | close _ _ _ _ _ hn' => exact absurd hn' hn
  | report _ f' u sf uevs hc _ _ hu =>
    cases h.symm.trans hc
    refine ⟨_, uevs, hr, fun e he => (hu e he).1, hu.not_callback, ?_, rfl, hw.consFm addr m.sid _ _ _⟩
    intro a s
    by_cases hk : (a, s) = (addr, m.sid)
    · cases hk
      rw [curNo_setAddr, if_pos rfl, Assoc.lookup_cons_filter_ne, if_pos rfl, curNo, h]
      rfl
    · exact curNo_setAddr_ne st addr m.sid _ _ _ (fun s hs => by rw [Assoc.lookup_cons_filter_ne, if_neg hs]) hk

/-- **An empty measurement closes exactly once and forgets the flow** (so a later measurement for it invokes
nothing, by `measure_unknown_ignored`). -/
theorem close_once_and_forget {σ : Type} (cfg : Cfg) (pol : Policy σ) (hb : pol.Bounded) (st : St σ) (hw : WfSt st)
    (addr : Addr) (m : Measure) (f : Flow σ) (h : cur st addr m.sid = some f) (hn : m.numFields = 0) :
    ∃ st' evs, step cfg pol st addr (.ms m) = .ok (.cont st' (.closed f.no :: evs ++ [.dropped f.no])) ∧
      (∀ e ∈ evs, UserEv addr m.sid f.no e) ∧ evs.filter isCallback = [] ∧
      curNo st' addr m.sid = none ∧
      (∀ a s, (a, s) ≠ (addr, m.sid) → curNo st' a s = curNo st a s) ∧ st'.nextFlow = st.nextFlow ∧ WfSt st' := by
  obtain ⟨r, hr, hs⟩ := step_stepped cfg pol hb st addr (.ms m)
  cases hs with
  | unknown _ hc => rw [h] at hc; cases hc
  | report _ _ _ _ _ _ hn' => exact absurd hn hn'
  | close _ f' sf uevs hc _ _ hu =>
    cases h.symm.trans hc
    refine ⟨_, uevs, hr, fun e he => (hu e he).1, hu.not_callback, ?_, ?_, rfl, hw.set addr _ (Assoc.nodup_keys_filter _ _ (hw.fm addr)) _ _⟩
    · rw [curNo_setAddr, if_pos rfl, Assoc.lookup_filter_ne, if_pos rfl]
      rfl
    · exact fun a s => curNo_setAddr_ne st addr m.sid _ _ _ fun s hs => by rw [Assoc.lookup_filter_ne, if_neg hs]

/-- **One handler per create, replacing without close.** Unless an install to a never-seen address
fails (then the runtime stops with an error), a create causes exactly one `new_flow`, on the algorithm picked
by name; a flow registered under the pair is dropped first, without a close callback. -/
theorem create_one_handler {σ : Type} (cfg : Cfg) (pol : Policy σ) (hb : pol.Bounded) (st : St σ) (hw : WfSt st)
    (addr : Addr) (c : Create) :
    (∃ st' evs, step cfg pol st addr (.cr c) = .ok (.fail st' evs) ∧ st.flows.lookup addr = none ∧
        evs.filter isCallback = [] ∧ ∀ a s, a ≠ addr → curNo st' a s = curNo st a s) ∨
    (∃ st' evs, step cfg pol st addr (.cr c) = .ok (.cont st' evs) ∧
      evs.filter isCallback =
        (match curNo st addr c.sid with | some n => [Ev.dropped n] | none => []) ++
        [.newFlow st.nextFlow (cfg.pick (c.alg.getD []))
          ⟨c.sid, c.cwnd, c.mss, c.srcIp, c.srcPort, c.dstIp, c.dstPort⟩ c.sid] ∧
      curNo st' addr c.sid = some st.nextFlow ∧
      (∀ a s, (a, s) ≠ (addr, c.sid) → curNo st' a s = curNo st a s) ∧
      st'.nextFlow = st.nextFlow + 1 ∧ WfSt st') := by
  obtain ⟨r, hr, hs⟩ := step_stepped cfg pol hb st addr (.cr c)
  cases hs with
  | crFail _ hun _ =>
    refine Or.inl ⟨_, _, hr, hun, rfl, fun a s ha => ?_⟩
    rw [curNo_setAddr, if_neg ha]
  | create _ u sf uevs h _ hu =>
    refine Or.inr ⟨_, _, hr, ?_, ?_, ?_, rfl, hw.consFm addr c.sid _ _ _⟩
    · -- filtering for callbacks removes the batch and the user events and keeps `new_flow` and the drop of the flow
      -- registered under the pair (at most one: flow ids are unique)
      rw [List.filter_append, List.filter_append, apply_ite (List.filter isCallback), List.filter_nil,
        filter_callback_batch_eq_nil, ite_self, filter_callback_dropAll_eq_self, dropAll_filter_eq _ (hw.fm addr), ← curNo_eq]
      simp only [List.nil_append, List.filter_cons, isCallback, if_true, hu.not_callback]
      rfl
    · rw [curNo_setAddr, if_pos rfl, Assoc.lookup_cons_filter_ne, if_pos rfl]
      rfl
    · exact fun a s => curNo_setAddr_ne st addr c.sid _ _ _ fun s hs => by rw [Assoc.lookup_cons_filter_ne, if_neg hs]

/-- **A ready (start or restart) drops only that datapath's flows**, without close callbacks, and
registers the address with no flows; flows of every other address are untouched. -/
theorem ready_drops_only_that_address {σ : Type} (cfg : Cfg) (pol : Policy σ) (st : St σ) (hw : WfSt st)
    (addr : Addr) (id : Nat) :
    ∃ st' evs, (step cfg pol st addr (.rdy id) = .ok (.cont st' evs) ∨
                step cfg pol st addr (.rdy id) = .ok (.fail st' evs)) ∧
      evs.filter isCallback = dropAll ((st.flows.lookup addr).getD []) ∧
      (∀ s, curNo st' addr s = none) ∧ (∀ a s, a ≠ addr → curNo st' a s = curNo st a s) ∧
      st'.nextFlow = st.nextFlow ∧ WfSt st' := by
  obtain ⟨r, hr, hs⟩ : ∃ r, step cfg pol st addr (.rdy id) = .ok r ∧ Stepped cfg st addr (.rdy id) r :=
    ⟨_, rfl, stepped_rdy cfg st addr id⟩
  cases hs with
  | rdy _ h =>
    refine ⟨_, _, Or.inl hr, ?_, fun s => by rw [curNo_setAddr, if_pos rfl]; rfl,
      fun a s ha => by rw [curNo_setAddr, if_neg ha], rfl, hw.set addr [] (by simp) _ _⟩
    rw [List.filter_append, filter_callback_dropAll_eq_self, filter_callback_batch_eq_nil, List.append_nil]
  | rdyFail _ h =>
    refine ⟨_, _, Or.inr hr, ?_, fun s => by rw [curNo_setAddr, if_pos rfl]; rfl,
      fun a s ha => by rw [curNo_setAddr, if_neg ha], rfl, hw.set addr [] (by simp) _ _⟩
    rw [List.filter_append, filter_callback_dropAll_eq_self]
    exact List.append_nil _

/-- the policy that never uses its handle -/
def nullPolicy : Policy Unit := { newFlow := fun _ _ _ => .done (), onReport := fun _ _ _ _ => .done (), onClose := fun _ => .done () }
theorem nullPolicy_bounded : nullPolicy.Bounded := ⟨fun _ _ _ => trivial, fun _ _ _ _ => trivial, fun _ => trivial⟩

end Portus.C02
