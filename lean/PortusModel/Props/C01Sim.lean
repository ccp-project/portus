import PortusModel.Lemmas.TextEval
import PortusModel.Props.C01
import PortusModel.Lemmas.CompileRho
import PortusModel.Lemmas.LowerRun
import PortusModel.Lemmas.ImageInv
/-!
# C01 — the simulation theorem: compile ⊑ lower ≈ Sem

`compiled_run_correct` composes the two halves of the proof: on a program of the fragment that the compiler and the
encoder accept, the emitted instructions are the reference lowering under the final scope
(`compile_refines_lower`: Lemmas/CompileLower.lean; `rhoOk_of_compile`, `defsFor_of_compile`:
Lemmas/CompileRho.lean); and the lowered program on the libccp machine shows what the source semantics denotes
(`switch_sim`, `lower_run_correct`: Lemmas/LowerRun.lean).

What is proved is partial with respect to the property as written (DESIGN 11.1, row C01): the hypotheses restrict the
program to the fragment (`InOracle` — pure conditions; statements that are a bare operator expression or bind a value
expression, i.e. a pure expression possibly containing hazard-free nested plain or guarded binds to ordinary
variables, or `if`/`!if`/`ewma` over two such operands; this is exactly the fragment the oracle `C01.check` decides —,
`LitsOk`, `WritesOk`, literal initial values, at most six locals, at least one event; a name may be read before, or
without, being assigned: it then reads 0 on both sides) and the run to `&&`/`||` on truth values. The machine is the
*decoded* program `progOf`, entered through `vmInvoke` (an invocation with nothing staged or pending) after a switch
in an arbitrary environment `env0`; that the libccp
model, fed the install and change-program bytes, holds `progOf` and runs it through `vmInvoke` is
`Props/C01Decode.lean` (`install_decodes`, `run_correct_from_bytes`). The fidelity of the model to libccp's C code is
validated by correspondence against the real libccp, not proved.

Two bounds are not about the fragment. `evs ≠ []`: libccp computes `num_to_return` from the first instruction that
is not a DEF, and leaves it 0 when there is none (`Vm.numToReturn`; `numToReturn_lower`), so a program without events
would report no values. `scF.numLocal ≤ 6`: the encoder checks only registers that occur in instructions, and a
local with index 6 or 7 is not encodable (`Reg.classIdx`), so a seventh local that no instruction mentions would sit
outside the local file (`rhoOk_of_compile`).
-/
namespace Portus.C01
open Portus Portus.Lang Portus.Vm Portus.Lang.Frag

/-- the libccp program a compiled binary denotes once installed under uid `u` -/
def progOf (u : Nat) (bin : Bin) : Program :=
  mkProg u ⟨bin.events.map evToExpr, bin.instrs.map toVInstr⟩

/-- the connection state after libccp's program switch (`ccp_invoke` with a staged program): volatile reset,
register initialisation, `Micros` origin -/
def afterSwitch (env : Env) (p : Program) (c0 : Conn) (now : Val) : Conn :=
  let c1 := initRegisterState env p (resetState env p c0)
  { c1 with t0 := now, regs := { c1.regs with impl := c1.regs.impl.set 3 0 } }

theorem toVReg_cls7 {r : Reg} (hs : SerR r) (h : (toVReg r).cls = 7) : (toVReg r).idx < 8 := by
  obtain ⟨c, x, hc⟩ := hs
  rw [toVReg_of_classIdx hc] at h ⊢
  cases h
  obtain ⟨t, rfl⟩ := C03.classIdx_eq7 hc
  exact Nat.lt_succ_of_le (Wire.classIdx_tmp.mp hc).1

theorem tmpsOk_of_serialize {bin : Bin} {img : Bytes} (h : bin.serialize = .ok img) :
    TmpsOk (bin.instrs.map toVInstr) :=
  List.forall_mem_map.mpr fun j hj =>
    (serI_of_serialize h j hj).elim fun h1 h23 => ⟨toVReg_cls7 h1, toVReg_cls7 h23.1, toVReg_cls7 h23.2⟩

/-- **C01 (partial): the compiled program computes the source semantics.** -/
theorem compiled_run_correct (uid u : Nat) (src : List Char) (upd : List (Name × Nat)) (ds : List Decl)
    (evs : List Event) (bin : Bin) (scF : Scope) (img : Bytes) (decls : List Sem.VarDecl)
    (hp : parseSource src = some (ds, evs))
    (hnd : (ds.map (·.var)).Nodup)
    (hfresh : ∀ d ∈ ds, (Scope.new uid).get d.var = none)
    (hc : compile uid src upd = .ok (bin, scF))
    (hser : bin.serialize = .ok img)
    (hv : varDecls ds upd = some decls)
    (hloc : scF.numLocal ≤ 6)
    (hne : evs ≠ [])
    (hst : InOracle evs = true)
    (hlits : LitsOk evs = true) (hwr : WritesOk evs = true)
    (env0 : Env) (c0 : Conn) (h0 : c0.regs = Regs.zero) (now : Val) (inputs : List Env) :
    match (Sem.run decls evs (Sem.initState decls now) inputs).mapM ofSem with
    | none => True
    | some exp => (vmRun (progOf u bin) (afterSwitch env0 (progOf u bin) c0 now) inputs).map ofVm = exp := by
  obtain ⟨sc0, hd0, hcp, -, -⟩ := compiled_decls hp hnd hfresh hc hser hv
  have hρ := rhoOk_of_compile uid src upd ds evs bin scF img decls hp hnd hfresh hc hser hv hloc
  have hd := defsFor_of_compile uid src upd ds evs sc0 bin scF img decls hp hnd hfresh hd0 hc hser hv
  have hlow := compile_refines_lower uid src upd ds evs sc0 bin scF img hp hd0 hcp hst hser
  obtain ⟨sim, wf⟩ := switch_sim hρ hd hne hlow u env0 c0 h0 now
  exact lower_run_correct hρ hd hne hst hlits hwr hlow (tmpsOk_of_serialize hser) u inputs _ _ sim wf

/-- the same, through the oracle of the correspondence check: `C01.check` accepts what the libccp machine shows
when it runs the compiled program from a fresh connection, whatever the inputs. There is no fragment hypothesis
on the expressions: `check` itself tests `InOracle` (and is vacuously true outside it), which is the fragment of
`compiled_run_correct`; likewise distinct declared names, `varDecls` and freshness at uid 0. -/
theorem check_accepts_compiled (uid u : Nat) (src : List Char) (upd : List (Name × Nat)) (ds : List Decl)
    (evs : List Event) (bin : Bin) (scF : Scope) (img : Bytes)
    (hp : parseSource src = some (ds, evs))
    (hc : compile uid src upd = .ok (bin, scF))
    (hser : bin.serialize = .ok img)
    (hloc : scF.numLocal ≤ 6)
    (hne : evs ≠ [])
    (hlits : LitsOk evs = true) (hwr : WritesOk evs = true)
    (hfresh : ∀ d ∈ ds, (Scope.new uid).get d.var = none ↔ (Scope.new 0).get d.var = none)
    (env0 : Env) (rest : List Env) (c0 : Conn) (h0 : c0.regs = Regs.zero) :
    check src upd (env0 :: rest)
      ((vmRun (progOf u bin) (afterSwitch env0 (progOf u bin) c0 env0.now) (env0 :: rest)).map ofVm) = true := by
  unfold check
  rw [hp]
  simp only
  split
  · rfl
  · rename_i hin
    simp only [Bool.not_eq_true', Bool.not_eq_false] at hin
    split
    · rfl
    · rename_i hnames
      split
      · rfl
      · rename_i decls hv
        simp only [Bool.not_eq_true', Bool.not_eq_false, Bool.and_eq_true, decide_eq_true_eq, List.all_eq_true,
          Option.isNone_iff_eq_none] at hnames
        have hfr : ∀ d ∈ ds, (Scope.new uid).get d.var = none := fun d hd => (hfresh d hd).mpr (hnames.2 d hd)
        have := compiled_run_correct uid u src upd ds evs bin scF img decls hp hnames.1 hfr hc hser hv hloc hne
          hin hlits hwr env0 c0 h0 env0.now (env0 :: rest)
        split
        · rfl
        · rename_i exp he
          rw [he] at this
          simp only at this
          rw [this]
          exact beq_self_eq_true _

/-- all hypotheses of `compiled_run_correct` about the program, as one decidable check (the driver reports with it
how many generated programs the theorem covers) -/
def inTheorem (uid : Nat) (src : List Char) (upd : List (Name × Nat)) : Bool :=
  match parseSource src with
  | none => false
  | some (ds, evs) =>
    match compile uid src upd with
    | .ok (bin, scF) =>
      bin.serialize.isOk && decide (scF.numLocal ≤ 6) && !evs.isEmpty && InOracle evs &&
        LitsOk evs && WritesOk evs && decide ((ds.map (·.var)).Nodup) &&
        ds.all (fun d => ((Scope.new uid).get d.var).isNone) && (varDecls ds upd).isSome
    | _ => false

def exEnv : Env := ⟨100, 0, ⟨List.replicate 15 7, 10, 20⟩⟩
def exConn : Conn := { regs := Regs.zero, t0 := 0, programIndex := 1, staged := none, pending := Pending.none }

/-- a **guarded bind nested as a value**: `(:= Report.x (if (> Ack.bytes_acked 0) 7))` is an operand of `+`; the
operator before it reads the old `Report.x`, the one after it the new one -/
def guardedNestedSrc : List Char :=
  ("(def (Report (r 0) (x 1))) (when true " ++
   "(:= Report.r (+ (* Report.x 2) (+ (:= Report.x (if (> Ack.bytes_acked 0) 7)) (* Report.x 2)))) (report))").toList

/-- **bare expression statements**: an operator expression used as a statement of a `when` body. The compiler
emits its code and leaves the result temporary unused; the source semantics evaluates it for its nested binds
(`(+ (:= Report.x 5) 2)` assigns `Report.x`) and its faults, and drops the value -/
def bareStmtSrc : List Char :=
  ("(def (Report (r 0) (x 1))) (when true (|| Flow.was_timeout false) (+ (:= Report.x 5) 2) (> Report.x 3) " ++
   "(:= Report.r Report.x) (report))").toList

/-- every primitive at 7, `Flow.was_timeout` a truth value (0) -/
def bareEnv : Env := ⟨100, 0, ⟨List.replicate 14 7 ++ [0], 10, 20⟩⟩

/-- a bare statement that faults: `(/ (:= Report.x 5) Ack.bytes_acked)` divides by zero when nothing was acked -/
def bareFaultSrc : List Char :=
  ("(def (Report (r 0) (x 1))) (when true (:= Report.r 9) (/ (:= Report.x 5) Ack.bytes_acked) " ++
   "(:= Report.r (+ Report.r Report.x)) (report))").toList

/-- `Ack.bytes_acked` = 0, every other primitive at 7 -/
def bareZeroEnv : Env := ⟨100, 0, ⟨0 :: List.replicate 14 7, 10, 20⟩⟩

/-- `(:= x (+ (:= x 1) (:= x 2)))`: the left operand's result register is the register of `x`, which the right
operand assigns before the `+` instruction reads it -/
def hazardSrc : List Char :=
  "(def (Report (out 0))) (when true (:= x (+ (:= x 1) (:= x 2))) (:= Report.out x) (report))".toList

/-- the five runs below as one evaluation (the model's name tables are converted once); each is stated again
under its name -/
theorem programs_run :
    ((match parseSource nestedSrc, compile 1 nestedSrc [] with
     | some (ds, evs), .ok (bin, _) =>
       match varDecls ds [] with
       | some decls =>
         decide ((Sem.run decls evs (Sem.initState decls 100) [exEnv]).mapM ofSem =
           some [.done (some 10) (some 20) (some [22, 7])]) &&
         decide ((vmRun (progOf 1 bin) (afterSwitch exEnv (progOf 1 bin) exConn 100) [exEnv]).map ofVm =
           [.done (some 10) (some 20) (some [22, 7])])
       | none => false
     | _, _ => false) = true) ∧
    ((match parseSource guardedNestedSrc, compile 1 guardedNestedSrc [] with
     | some (ds, evs), .ok (bin, _) =>
       match varDecls ds [] with
       | some decls =>
         decide ((Sem.run decls evs (Sem.initState decls 100) [exEnv, exEnv]).mapM ofSem =
           some [.done (some 10) (some 20) (some [23, 7]), .done (some 10) (some 20) (some [35, 7])]) &&
         decide ((vmRun (progOf 1 bin) (afterSwitch exEnv (progOf 1 bin) exConn 100) [exEnv, exEnv]).map ofVm =
           [.done (some 10) (some 20) (some [23, 7]), .done (some 10) (some 20) (some [35, 7])])
       | none => false
     | _, _ => false) = true) ∧
    ((match parseSource bareStmtSrc, compile 1 bareStmtSrc [] with
     | some (ds, evs), .ok (bin, _) =>
       match varDecls ds [] with
       | some decls =>
         decide (bin.instrs.length = 9) &&
         decide ((Sem.run decls evs (Sem.initState decls 100) [bareEnv, bareEnv]).mapM ofSem =
           some [.done (some 10) (some 20) (some [5, 5]), .done (some 10) (some 20) (some [5, 5])]) &&
         decide ((vmRun (progOf 1 bin) (afterSwitch exEnv (progOf 1 bin) exConn 100) [bareEnv, bareEnv]).map ofVm =
           [.done (some 10) (some 20) (some [5, 5]), .done (some 10) (some 20) (some [5, 5])])
       | none => false
     | _, _ => false) = true) ∧
    ((match parseSource bareFaultSrc, compile 1 bareFaultSrc [] with
     | some (ds, evs), .ok (bin, _) =>
       match varDecls ds [] with
       | some decls =>
         decide ((Sem.run decls evs (Sem.initState decls 100) [bareZeroEnv, exEnv]).mapM ofSem =
           some [.fault (-92), .done (some 10) (some 20) (some [14, 5])]) &&
         decide ((vmRun (progOf 1 bin) (afterSwitch exEnv (progOf 1 bin) exConn 100) [bareZeroEnv, exEnv]).map ofVm =
           [.fault (-92), .done (some 10) (some 20) (some [14, 5])])
       | none => false
     | _, _ => false) = true) ∧
    ((match parseSource hazardSrc, compile 1 hazardSrc [] with
     | some (ds, evs), .ok (bin, _) =>
       match varDecls ds [] with
       | some decls =>
         !InOracle evs && bin.serialize.isOk &&
         decide ((Sem.run decls evs (Sem.initState decls 100) [exEnv]).mapM ofSem =
           some [.done (some 10) (some 20) (some [3])]) &&
         decide ((vmRun (progOf 1 bin) (afterSwitch exEnv (progOf 1 bin) exConn 100) [exEnv]).map ofVm =
           [.done (some 10) (some 20) (some [4])])
       | none => false
     | _, _ => false) = true) := by
  decide_text [nestedSrc, guardedNestedSrc, bareStmtSrc, bareFaultSrc, hazardSrc]

/-- the instance of `compiled_run_correct` on `nestedSrc`, by evaluation: with every primitive at 7 both sides
report `out = 7*2 + (7 + 1) = 22`, `saved = 7` -/
theorem nestedSrc_run :
    (match parseSource nestedSrc, compile 1 nestedSrc [] with
     | some (ds, evs), .ok (bin, _) =>
       match varDecls ds [] with
       | some decls =>
         decide ((Sem.run decls evs (Sem.initState decls 100) [exEnv]).mapM ofSem =
           some [.done (some 10) (some 20) (some [22, 7])]) &&
         decide ((vmRun (progOf 1 bin) (afterSwitch exEnv (progOf 1 bin) exConn 100) [exEnv]).map ofVm =
           [.done (some 10) (some 20) (some [22, 7])])
       | none => false
     | _, _ => false) = true := programs_run.1

/-- the instance on `guardedNestedSrc`, two invocations with every primitive at 7: both sides report
`r = 1*2 + (7 + 7*2) = 23`, `x = 7`, then `r = 7*2 + (7 + 7*2) = 35`, `x = 7` -/
theorem guardedNestedSrc_run :
    (match parseSource guardedNestedSrc, compile 1 guardedNestedSrc [] with
     | some (ds, evs), .ok (bin, _) =>
       match varDecls ds [] with
       | some decls =>
         decide ((Sem.run decls evs (Sem.initState decls 100) [exEnv, exEnv]).mapM ofSem =
           some [.done (some 10) (some 20) (some [23, 7]), .done (some 10) (some 20) (some [35, 7])]) &&
         decide ((vmRun (progOf 1 bin) (afterSwitch exEnv (progOf 1 bin) exConn 100) [exEnv, exEnv]).map ofVm =
           [.done (some 10) (some 20) (some [23, 7]), .done (some 10) (some 20) (some [35, 7])])
       | none => false
     | _, _ => false) = true := programs_run.2.1

/-- the instance on `bareStmtSrc`, two invocations: both sides (the compiled code has 9 instructions: 2 DEF, the
flag, one per bare statement plus the nested bind, the final bind) report `r = 5`, `x = 5` -/
theorem bareStmtSrc_run :
    (match parseSource bareStmtSrc, compile 1 bareStmtSrc [] with
     | some (ds, evs), .ok (bin, _) =>
       match varDecls ds [] with
       | some decls =>
         decide (bin.instrs.length = 9) &&
         decide ((Sem.run decls evs (Sem.initState decls 100) [bareEnv, bareEnv]).mapM ofSem =
           some [.done (some 10) (some 20) (some [5, 5]), .done (some 10) (some 20) (some [5, 5])]) &&
         decide ((vmRun (progOf 1 bin) (afterSwitch exEnv (progOf 1 bin) exConn 100) [bareEnv, bareEnv]).map ofVm =
           [.done (some 10) (some 20) (some [5, 5]), .done (some 10) (some 20) (some [5, 5])])
       | none => false
     | _, _ => false) = true := programs_run.2.2.1

/-- the fault of a bare statement aborts the invocation on both sides: with `Ack.bytes_acked = 0` both fault with
libccp's division-by-zero code −92; with 7 both report `r = 9 + 5 = 14`, `x = 5` -/
theorem bareFaultSrc_run :
    (match parseSource bareFaultSrc, compile 1 bareFaultSrc [] with
     | some (ds, evs), .ok (bin, _) =>
       match varDecls ds [] with
       | some decls =>
         decide ((Sem.run decls evs (Sem.initState decls 100) [bareZeroEnv, exEnv]).mapM ofSem =
           some [.fault (-92), .done (some 10) (some 20) (some [14, 5])]) &&
         decide ((vmRun (progOf 1 bin) (afterSwitch exEnv (progOf 1 bin) exConn 100) [bareZeroEnv, exEnv]).map ofVm =
           [.fault (-92), .done (some 10) (some 20) (some [14, 5])])
       | none => false
     | _, _ => false) = true := programs_run.2.2.2.1

/-- **why `noHazard` is a hypothesis** (it is the only part of `InOracle` this program violates): the compiler and
the encoder accept `hazardSrc`; the source semantics (eager, left to right: `1 + 2`) reports 3, the libccp
machine running the compiled code reports 4 (`bind x x 1; bind x x 2; add t0 x x`). The documentation is silent
on such programs; the theorem and the oracle exclude them. -/
theorem hazard_discrepancy :
    (match parseSource hazardSrc, compile 1 hazardSrc [] with
     | some (ds, evs), .ok (bin, _) =>
       match varDecls ds [] with
       | some decls =>
         !InOracle evs && bin.serialize.isOk &&
         decide ((Sem.run decls evs (Sem.initState decls 100) [exEnv]).mapM ofSem =
           some [.done (some 10) (some 20) (some [3])]) &&
         decide ((vmRun (progOf 1 bin) (afterSwitch exEnv (progOf 1 bin) exConn 100) [exEnv]).map ofVm =
           [.done (some 10) (some 20) (some [4])])
       | none => false
     | _, _ => false) = true := programs_run.2.2.2.2

/-! ## the example programs are inside the theorem

One kernel evaluation for all the programs (`Lemmas/TextEval`): each meets every hypothesis of the theorem;
`nestedSrc`, `guardedNestedSrc` and `bareStmtSrc` are not `Stratified`, `cexSrc2` — `(:= x y)` with `y` never
assigned, then `(:= x 3) (:= Report.acked x) (report)` — is not `DefBeforeUse`. -/

theorem programs_inTheorem :
    inTheorem 3 C13.exSrc [("bar".toList, 9)] = true ∧
    (inTheorem 1 cexSrc2 [] = true ∧
      (match parseSource cexSrc2 with
       | some (ds, evs) => DefBeforeUse ds evs
       | none => true) = false) ∧
    (inTheorem 1 nestedSrc [] = true ∧
      (match parseSource nestedSrc with
       | some (_, evs) => Stratified evs
       | none => true) = false) ∧
    (inTheorem 1 guardedNestedSrc [] = true ∧
      (match parseSource guardedNestedSrc with
       | some (_, evs) => InOracle evs
       | none => false) = true ∧
      (match parseSource guardedNestedSrc with
       | some (_, evs) => Stratified evs
       | none => true) = false) ∧
    (inTheorem 1 bareStmtSrc [] = true ∧
      (match parseSource bareStmtSrc with
       | some (_, evs) => InOracle evs
       | none => false) = true ∧
      (match parseSource bareStmtSrc with
       | some (_, evs) => Stratified evs
       | none => true) = false) ∧
    inTheorem 1 bareFaultSrc [] = true := by
  decide_text [C13.exSrc, cexSrc2, nestedSrc, guardedNestedSrc, bareStmtSrc, bareFaultSrc]

theorem exSrc_inTheorem : inTheorem 3 C13.exSrc [("bar".toList, 9)] = true := programs_inTheorem.1

theorem cexSrc2_inTheorem : inTheorem 1 cexSrc2 [] = true := programs_inTheorem.2.1.1

theorem cexSrc2_not_defBeforeUse :
    (match parseSource cexSrc2 with
     | some (ds, evs) => DefBeforeUse ds evs
     | none => true) = false := programs_inTheorem.2.1.2

theorem nestedSrc_inTheorem : inTheorem 1 nestedSrc [] = true := programs_inTheorem.2.2.1.1

theorem nestedSrc_not_stratified :
    (match parseSource nestedSrc with
     | some (_, evs) => Stratified evs
     | none => true) = false := programs_inTheorem.2.2.1.2

theorem guardedNestedSrc_inTheorem : inTheorem 1 guardedNestedSrc [] = true := programs_inTheorem.2.2.2.1.1

theorem guardedNestedSrc_inOracle :
    (match parseSource guardedNestedSrc with
     | some (_, evs) => InOracle evs
     | none => false) = true := programs_inTheorem.2.2.2.1.2.1

theorem guardedNestedSrc_not_stratified :
    (match parseSource guardedNestedSrc with
     | some (_, evs) => Stratified evs
     | none => true) = false := programs_inTheorem.2.2.2.1.2.2

theorem bareStmtSrc_inTheorem : inTheorem 1 bareStmtSrc [] = true := programs_inTheorem.2.2.2.2.1.1

theorem bareStmtSrc_inOracle :
    (match parseSource bareStmtSrc with
     | some (_, evs) => InOracle evs
     | none => false) = true := programs_inTheorem.2.2.2.2.1.2.1

theorem bareStmtSrc_not_stratified :
    (match parseSource bareStmtSrc with
     | some (_, evs) => Stratified evs
     | none => true) = false := programs_inTheorem.2.2.2.2.1.2.2

theorem bareFaultSrc_inTheorem : inTheorem 1 bareFaultSrc [] = true := programs_inTheorem.2.2.2.2.2

end Portus.C01
