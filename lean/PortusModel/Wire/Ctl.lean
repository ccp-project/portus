import PortusModel.Wire.Dp
import PortusModel.Lang.Serialize
/-!
# CCP → datapath messages (`src/serialize/{install,changeprog,update_field}.rs`)
-/
namespace Portus.Wire
open Portus Portus.Lang

structure Install where
  sid : Nat
  uid : Nat
  numEvents : Nat
  numInstrs : Nat
  bin : Bin
deriving Repr, DecidableEq, Inhabited

structure ChangeProg where
  sid : Nat
  uid : Nat
  numFields : Nat
  fields : List (Reg × Nat)
deriving Repr, DecidableEq, Inhabited

structure UpdateField where
  sid : Nat
  /-- `num_fields : u8` -/
  numFields : Nat
  fields : List (Reg × Nat)
deriving Repr, DecidableEq, Inhabited

/-- the shared `get_bytes` of change-prog and update-field: 5 register bytes + 8 value bytes each -/
def serializeUpdates : List (Reg × Nat) → Out Bytes
  | [] => .ok []
  | (r, v) :: rest => do
    let rb ← r.serialize
    let tail ← serializeUpdates rest
    pure (rb ++ le64 v ++ tail)

/-- `get_hdr` computes the length in `u32`; an overflow panics in the debug profile (it needs
2^28 records, far beyond anything the library builds, and is excluded by the theorems' hypotheses) -/
def u32LenP (len : Nat) (k : Out Bytes) : Out Bytes := if len ≥ 2^32 then .panic else k

def serializeInstall (m : Install) : Out Bytes :=
  u32LenP (8 + 12 + (m.numEvents * 16 + m.numInstrs * 16)) <|
  serializeWith INSTALL (8 + 12 + (m.numEvents * 16 + m.numInstrs * 16)) m.sid do
    let b ← m.bin.serialize
    pure (le32 m.uid ++ le32 m.numEvents ++ le32 m.numInstrs ++ b)

def serializeChangeProg (m : ChangeProg) : Out Bytes :=
  u32LenP (8 + 4 + 4 + m.numFields * 13) <|
  serializeWith CHANGEPROG (8 + 4 + 4 + m.numFields * 13) m.sid do
    let b ← serializeUpdates m.fields
    pure (le32 m.uid ++ le32 m.numFields ++ b)

/-- no `u32LenP` here: `num_fields` is a `u8` (`update_field.rs`), `12 + 13 * 255` cannot overflow -/
def serializeUpdateField (m : UpdateField) : Out Bytes :=
  serializeWith UPDATE_FIELD (8 + 4 + m.numFields * 13) m.sid do
    let b ← serializeUpdates m.fields
    pure (le32 m.numFields ++ b)

end Portus.Wire
