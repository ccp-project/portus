import PortusModel.Lemmas.TextEval
import PortusModel.Props.C01Sim
import PortusModel.Props.C03
import PortusModel.Props.C06Acts
import PortusModel.Lemmas.Datapath
/-!
# C01 — from bytes: libccp decodes the install message of a compiled binary to `progOf`

`C01Sim.compiled_run_correct` is about the *decoded* program `progOf u bin`. libccp does not get `progOf`: it gets
the install message portus builds from `bin.serialize` (`installOf`) and takes it apart in `ccp_read_msg` / `datapath_program_install` /
`read_instruction` (`Vm/Datapath.lean`). `install_decodes`: reading that message installs `progOf uid bin`;
`invoke_first`, `invoke_steady`: `ccp_invoke` after the change-program message is `vmInvoke` from `afterSwitch`;
`run_correct_from_bytes`: `compiled_run_correct` on the datapath object fed with the real messages.

Hypotheses that are new w.r.t. `C01Sim`, and why each is needed:
* `uid < 2^32` — the uid travels as a `u32`;
* at most 256 events and at most 256 instructions (`MAX_EXPRESSIONS`, `MAX_INSTRUCTIONS`): the sizes of the arrays
  of `struct DatapathProgram`. The *model* (`installProgram`) stores lists of any length and the proofs use the two
  bounds only to derive libccp's message-size limit (`20 + 16·512 ≤ 32678 = BIGGEST_MSG_SIZE`; `readMsg` refuses
  larger messages with -23). They are
  hypotheses of every headline theorem because the model is faithful to the C code only below them: in libccp
  1.2.0 `read_install_expr_msg_hdr` compares the two counts with the limits *before* the `memcpy` that fills them
  in (they are still the zeros of the preceding `memset`), so the test never fires and
  `datapath_program_install` writes `num_expressions`/`num_instructions` records into the 256-entry arrays
  unchecked — an install message of 257..2041 records, which passes every check of `ccp_read_msg`, overruns them
  (undefined behaviour; not modelled);
* for a hand-built `Bin` only: `evInRange` (event-table fields are written as `u32`; `wrapBin` below shows a
  binary whose fields wrap, which libccp then holds differently from `progOf`) and a *writable result class* for
  every instruction — `read_instruction` refuses result classes 1 (immediate) and 4 (primitive) with -34 although
  portus' encoder serializes them (`badBin` below). For *compiled* binaries both follow from C03 (`compile_wf`),
  so `compiled_install_decodes` / `run_correct_from_bytes` do not carry them;
* at an arbitrary datapath state (`install_decodes_at`): a free slot `k < 9` (libccp does not use the last of its
  `max_programs = 10` slots: `pid ≥ max_programs → LIBCCP_PROG_TABLE_FULL`, with `pid` already incremented), the
  uid not installed yet and no slot carrying index `k + 1`.
-/
namespace Portus.C01
open Portus Portus.Lang Portus.Vm Portus.Wire Portus.Lang.Frag

/-- the install message `run_inner` builds for a compiled program (`Driver/Rt.lean` `buildProgs`): flow id 0,
the program's uid, the two counts taken from the record lists -/
def installOf (uid : Nat) (bin : Bin) : Install :=
  { sid := 0, uid := uid, numEvents := bin.events.length, numInstrs := bin.instrs.length, bin := bin }

/-- the install message of `installOf uid bin` written out: header (type, length, flow id 0), uid, the two counts,
the image -/
def installBytes (uid : Nat) (bin : Bin) (img : Bytes) : Bytes :=
  serializeHeader INSTALL (8 + 12 + (bin.events.length * 16 + bin.instrs.length * 16)) 0 ++
    (le32 uid ++ le32 bin.events.length ++ le32 bin.instrs.length ++ img)

theorem serializeInstall_installOf {uid : Nat} {bin : Bin} {img : Bytes} (hser : bin.serialize = .ok img)
    (hfit : 20 + 16 * (bin.events.length + bin.instrs.length) ≤ 65535) :
    serializeInstall (installOf uid bin) = .ok (installBytes uid bin img) := by
  obtain ⟨ib, hib, rfl⟩ := Bin.serialize_ok hser
  exact serializeInstall_eq_ok.mpr ⟨by show 20 + (bin.events.length * 16 + bin.instrs.length * 16) ≤ 65535; omega,
    ib, hib, rfl⟩

theorem readInstruction_match {i : Instr} {m : Libccp.InstrMsg} (h : instrMatch i m)
    (hw : C03.writable i.res = true) : readInstruction m = .ok (toVInstr i) := by
  obtain ⟨h0, h1, h2, h3⟩ := h
  have ho := serializeOp_bound h0
  have hc := C03.classIdx_writable h1 hw
  obtain ⟨b1, _⟩ := classIdx_bounds h1
  obtain ⟨b2, _⟩ := classIdx_bounds h2
  obtain ⟨b3, _⟩ := classIdx_bounds h3
  have hne : ¬ (m.resT = 1 ∨ m.resT = 4) := by
    intro h
    rcases h with h | h <;> rw [h] at hc <;> cases hc
  unfold readInstruction
  rw [if_neg (by omega), if_neg hne, if_neg (by omega), if_neg (by omega), if_neg (by omega)]
  simp only [toVInstr, opNat, toVReg, h0, h1, h2, h3]

theorem readInstructions_match : ∀ (is : List Instr) (ms : List Libccp.InstrMsg) (acc : List VInstr),
    instrsMatch is ms → (∀ i ∈ is, C03.writable i.res = true) →
    readInstructions ms acc = (acc.reverse ++ is.map toVInstr, 0)
  | [], [], acc, _, _ => by simp only [readInstructions, List.map_nil, List.append_nil]
  | [], _ :: _, _, h, _ | _ :: _, [], _, h, _ => by simp only [instrsMatch] at h
  | i :: is, m :: ms, acc, h, hw => by
    simp only [instrsMatch] at h
    have h1 := readInstruction_match h.1 (hw i (List.mem_cons_self ..))
    have ih := readInstructions_match is ms (toVInstr i :: acc) h.2 (fun j hj => hw j (List.mem_cons_of_mem _ hj))
    simp only [readInstructions, h1, ih, List.reverse_cons, List.map_cons, List.append_assoc, List.singleton_append]

theorem installProgram_match (dp : Dp) (uid k : Nat) (exprs : List Libccp.Expr) (is : List Instr)
    (ms : List Libccp.InstrMsg) (hfree : findFree dp.programs 0 = some k) (hk : k < 9)
    (hm : instrsMatch is ms) (hw : ∀ i ∈ is, C03.writable i.res = true) :
    installProgram dp uid exprs ms =
      ({ dp with programs := dp.programs.set k (k + 1, mkProg uid ⟨exprs, is.map toVInstr⟩) }, 0) := by
  unfold installProgram
  rw [hfree]
  simp only
  rw [if_neg (by omega), readInstructions_match is ms [] hm hw]
  rfl

/-- decoding at an arbitrary datapath state; `preInstall`: the table, cleared if the uid is 1 -/
theorem install_decodes_at (dp : Dp) (k uid : Nat) (bin : Bin) (img : Bytes) (hser : bin.serialize = .ok img)
    (huid : uid < 2^32) (hne256 : bin.events.length ≤ 256) (hni256 : bin.instrs.length ≤ 256)
    (hev : ∀ e ∈ bin.events, evInRange e)
    (hres : ∀ i ∈ bin.instrs, C03.writable i.res = true)
    (hfree : findFree (preInstall dp uid).programs 0 = some k) (hk : k < 9)
    (hnu : lookupUid (preInstall dp uid) uid = none) (hni : lookupIndex (preInstall dp uid) (k + 1) = none) :
    ∃ dp', readMsg dp (installBytes uid bin img) = (dp', 0) ∧ dp'.conns = dp.conns ∧
      lookupUid dp' uid = some (k + 1) ∧ lookupIndex dp' (k + 1) = some (progOf uid bin) := by
  -- libccp's reader takes the message apart (C06), and `ccp_read_msg` acts on what it read
  have hmsg := serializeInstall_installOf (uid := uid) hser (by omega)
  have hlen : (installBytes uid bin img).length ≤ 32678 := by
    rw [serializeInstall_length hmsg]; show 20 + 16 * (bin.events.length + bin.instrs.length) ≤ 32678; omega
  obtain ⟨_, _, _, _, ms, hr, hm⟩ := C06.install_read_by_libccp (installOf uid bin) _
    ⟨rfl, rfl, Nat.two_pow_pos 32, huid, hev⟩ hmsg hlen
  have hr' : readMsg dp (installBytes uid bin img) =
      installProgram (preInstall dp uid) uid (bin.events.map evToExpr) ms := readMsg_of_libccp dp _ _ hr
  rw [hr', installProgram_match (preInstall dp uid) uid k _ bin.instrs ms hfree hk hm hres]
  obtain ⟨l1, l2⟩ := lookup_after_install (preInstall dp uid) uid k (progOf uid bin) rfl hfree hnu hni
  refine ⟨_, rfl, ?_, l1, l2⟩
  unfold preInstall
  split <;> rfl

/-- **C01, decoding.** On a freshly initialised datapath, libccp's `ccp_read_msg` applied to the install message of
a serializable binary returns 0 and installs `progOf uid bin` (in slot 1). -/
theorem install_decodes (uid : Nat) (bin : Bin) (img : Bytes) (hser : bin.serialize = .ok img)
    (huid : uid < 2^32) (hne256 : bin.events.length ≤ 256) (hni256 : bin.instrs.length ≤ 256)
    (hev : ∀ e ∈ bin.events, evInRange e)
    (hres : ∀ i ∈ bin.instrs, C03.writable i.res = true) :
    ∃ dp', readMsg Dp.init (installBytes uid bin img) = (dp', 0) ∧ dp'.conns = Dp.init.conns ∧
      lookupUid dp' uid = some 1 ∧ lookupIndex dp' 1 = some (progOf uid bin) := by
  have hpre : preInstall Dp.init uid = Dp.init := by unfold preInstall; split <;> rfl
  exact install_decodes_at Dp.init 0 uid bin img hser huid hne256 hni256 hev hres (by rw [hpre]; rfl) (by omega)
    (by rw [hpre]; rfl) (by rw [hpre]; rfl)

/-- the same for the message as the library builds it (`serializeInstall` of `installOf`) -/
theorem install_decodes_msg (uid : Nat) (bin : Bin) (msg : Bytes)
    (hmsg : serializeInstall (installOf uid bin) = .ok msg)
    (huid : uid < 2^32) (hne256 : bin.events.length ≤ 256) (hni256 : bin.instrs.length ≤ 256)
    (hev : ∀ e ∈ bin.events, evInRange e)
    (hres : ∀ i ∈ bin.instrs, C03.writable i.res = true) :
    ∃ dp', readMsg Dp.init msg = (dp', 0) ∧ dp'.conns = Dp.init.conns ∧
      lookupUid dp' uid = some 1 ∧ lookupIndex dp' 1 = some (progOf uid bin) := by
  obtain ⟨_, ib, hib, rfl⟩ := serializeInstall_eq_ok.mp hmsg
  have hib' : serializeInstrs bin.instrs = .ok ib := hib
  exact install_decodes uid bin _ (by rw [Bin.serialize, hib']; rfl) huid hne256 hni256 hev hres

/-- for compiled programs: `evInRange` and the writable results come from C03 (`compile_wf`) -/
theorem compiled_install_decodes (cuid uid : Nat) (src : List Char) (upd : List (Name × Nat)) (bin : Bin)
    (scF : Scope) (msg : Bytes)
    (hc : compile cuid src upd = .ok (bin, scF))
    (hmsg : serializeInstall (installOf uid bin) = .ok msg)
    (huid : uid < 2^32) (hne256 : bin.events.length ≤ 256) (hni256 : bin.instrs.length ≤ 256) :
    ∃ dp', readMsg Dp.init msg = (dp', 0) ∧ dp'.conns = Dp.init.conns ∧
      lookupUid dp' uid = some 1 ∧ lookupIndex dp' 1 = some (progOf uid bin) := by
  obtain ⟨ds, evs, sc0, _, _, hw, _⟩ := C03.compile_wf cuid src upd bin scF hc
  exact install_decodes_msg uid bin msg hmsg huid hne256 hni256 (C03.Tiles_inRange hw.tiles (by omega))
    (fun i hi => (hw.instr i hi).1)

/-- a hand-built binary the encoder accepts but libccp refuses: the result register is an immediate -/
def badBin : Bin := ⟨[], [⟨.immNum 0, .bind, .immNum 0, .immNum 0⟩]⟩

example : badBin.serialize = .ok [1, 1,0,0,0,0, 1,0,0,0,0, 1,0,0,0,0] := by decide
example : (readMsg Dp.init (installBytes 3 badBin [1, 1,0,0,0,0, 1,0,0,0,0, 1,0,0,0,0])).2 = -34 := by decide

/-- event-table fields beyond `u32` wrap on the wire: libccp then holds a different program -/
def wrapBin : Bin := ⟨[⟨2^32, 0, 0, 0⟩], []⟩

example : wrapBin.serialize = .ok (List.replicate 16 0) := by decide
example : (readMsg Dp.init (installBytes 3 wrapBin (List.replicate 16 0))).2 = 0 ∧
    (lookupIndex (readMsg Dp.init (installBytes 3 wrapBin (List.replicate 16 0))).1 1 == some (progOf 3 wrapBin))
      = false := by decide

/-- the whole conclusion of `compiled_install_decodes` as one decidable check -/
def decodeCheck (cuid uid : Nat) (src : List Char) (upd : List (Name × Nat)) : Bool :=
  match compile cuid src upd with
  | .ok (bin, _) =>
    match serializeInstall (installOf uid bin) with
    | .ok msg =>
      decide (uid < 2^32) && decide (bin.events.length ≤ 256) && decide (bin.instrs.length ≤ 256) &&
        (let r := readMsg Dp.init msg
         r.2 == 0 && lookupUid r.1 uid == some 1 && lookupIndex r.1 1 == some (progOf uid bin))
    | _ => false
  | _ => false

theorem exSrc_decodes : decodeCheck 3 3 C13.exSrc [("bar".toList, 9)] = true := by decide_text [C13.exSrc]

theorem writeReg_withImpl (env : Env) (c : Conn) (v : Val) (X : List Val) {r : VReg} {f : File} {i : Nat}
    (h : cell r = some (f, i)) (hf : f = .control ∨ f = .report) :
    writeReg env (withImpl c X) v r = withImpl (writeReg env c v r) X := by
  rw [writeReg_of_cell env _ v h, writeReg_of_cell env c v h]
  split
  · rcases hf with rfl | rfl <;> rfl
  · rfl

/-- the DEF folds (`reset_state`, `init_register_state`) write control and report registers only, so they commute
with replacing the implicit file: libccp loads `Cwnd`/`Rate` before the program switch, `vmInvoke` after it -/
theorem defFold_withImpl (env : Env) (P : VInstr → Prop) [DecidablePred P]
    (hP : ∀ i, P i → i.left.cls = 0 ∨ i.left.cls = 5 ∨ i.left.cls = 6 ∨ i.left.cls = 8)
    (X : List Val) (l : List VInstr) (c : Conn) :
    defFold env P l (withImpl c X) = withImpl (defFold env P l c) X :=
  List.foldl_hom (fun c => withImpl c X) fun c i => by
    by_cases hi : P i
    · obtain ⟨f, hf, hc⟩ := cell_rc (hP i hi)
      rw [if_pos hi, if_pos hi, writeReg_withImpl env c _ X hc hf]
    · rw [if_neg hi, if_neg hi]

/-- `ccp_invoke` with a staged program on a connection with zeroed registers is `vmInvoke` after the switch, the
form `compiled_run_correct` speaks about -/
theorem invoke_first (dp : Dp) (sid idx : Nat) (p : Program) (c0 : Conn) (now : Val) (prims : Prims)
    (hc : getConn dp sid = some c0) (h0 : c0.regs = Regs.zero) (hst : c0.staged = some idx)
    (hpend : c0.pending = Pending.none) (hp : lookupIndex dp idx = some p) :
    invoke dp sid now prims =
      some (setConn dp sid
        (vmInvoke p ⟨now, 0, prims⟩ (afterSwitch ⟨now, 0, prims⟩ p { c0 with programIndex := idx, staged := none } now)).1,
        (vmInvoke p ⟨now, 0, prims⟩ (afterSwitch ⟨now, 0, prims⟩ p { c0 with programIndex := idx, staged := none } now)).2) := by
  rw [invoke_eq dp sid now prims c0 hc]
  unfold C06.loadPrims
  -- the environment, the loaded implicit file and the two states get names: `rfl` and `simp` below then compare
  -- them as atoms and never unfold a DEF fold
  generalize henv : (⟨now, 0, prims⟩ : Env) = env
  generalize hX : (c0.regs.impl.set 4 (prims.sndCwnd.toUInt32.toUInt64)).set 5 prims.sndRate = X
  generalize hc0' : ({ c0 with programIndex := idx, staged := none } : Conn) = c0'
  generalize hcF : initRegisterState env p (resetState env p c0') = cF
  have hsw : switched dp env now (withImpl c0 X) =
      { cF with t0 := now, regs := { cF.regs with impl := X.set 3 0 } } := by
    unfold switched
    have e1 : (withImpl c0 X).staged = some idx := hst
    rw [e1]
    simp only [hp]
    have e2 : ({ withImpl c0 X with programIndex := idx, staged := none } : Conn) = withImpl c0' X := by
      rw [← hc0']; rfl
    rw [e2, resetState_eq, initRegisterState_eq, defFold_withImpl env _ (fun _ h => by omega),
      defFold_withImpl env _ (fun _ h => by omega), ← resetState_eq, ← initRegisterState_eq, hcF]
    rfl
  have himpl : cF.regs.impl = Regs.zero.impl := by
    rw [← hcF, resetState_eq, initRegisterState_eq, (defFold_frame env _ (fun _ h => by omega) _ _).1,
      (defFold_frame env _ (fun _ h => by omega) _ _).1, ← hc0']
    show c0.regs.impl = _
    rw [h0]
  have hvm : vmInvoke p env (afterSwitch env p c0' now) =
      stateMachine env p { cF with t0 := now, regs := { cF.regs with impl := X.set 3 0 } }
        { rc := 0, setCwnd := none, setRate := none, report := none } := by
    unfold vmInvoke afterSwitch
    simp only [hcF, himpl]
    rw [← henv, ← hX, h0]
    rfl
  obtain ⟨f1, f2, -, f4⟩ := switched_frame dp env now (withImpl c0 X) idx p hst hp
  obtain ⟨a1, a2⟩ := C06.applyPending_none (switched dp env now (withImpl c0 X)) (f1.trans hpend) (by
    rw [f4]
    show c0.regs.control.length ≤ 110
    rw [h0]
    exact Nat.le_of_eq (List.length_replicate ..))
  simp only [f2, hp]
  rw [a1, a2, hsw, hvm]

/-- the change-program message `set_program` sends without field overrides -/
def cpBytes (sid uid : Nat) : Bytes := le16 4 ++ (le16 16 ++ (le32 sid ++ (le32 uid ++ le32 0)))

theorem serializeChangeProg_nofields (sid uid : Nat) :
    serializeChangeProg ⟨sid, uid, 0, []⟩ = .ok (cpBytes sid uid) :=
  serializeChangeProg_eq_ok.mpr ⟨(by decide : 16 + 0 * 13 ≤ 65535), [], rfl, rfl⟩

theorem readMsg_cpBytes (dp : Dp) (sid uid idx : Nat) (c : Conn) (hsid : sid < 2^32) (huid : uid < 2^32)
    (hc : getConn dp sid = some c) (hl : lookupUid dp uid = some idx) :
    readMsg dp (cpBytes sid uid) = (setConn dp sid { c with staged := some idx, pending := Pending.none }, 0) := by
  obtain ⟨_, _, _, us, hr, hm⟩ := C06.changeprog_read_by_libccp ⟨sid, uid, 0, []⟩ _
    ⟨rfl, hsid, huid, fun _ h => nomatch h⟩ (serializeChangeProg_nofields sid uid) (Nat.zero_le _)
  cases us with
  | nil => rw [readMsg_of_libccp dp _ _ hr, act, hc, hl]; rfl
  | cons _ _ => exact hm.elim

theorem vmInvoke_keep (p : Program) (env : Env) (c : Conn) : Keep c (vmInvoke p env c).1 := by
  unfold vmInvoke
  have k := stateMachine_keep env p
    { c with regs := { c.regs with impl :=
        (c.regs.impl.set 4 (env.prims.sndCwnd.toUInt32.toUInt64)).set 5 env.prims.sndRate } }
    { rc := 0, setCwnd := none, setRate := none, report := none }
  -- `k` starts from `c` with the primitives loaded, which differs from `c` in `impl` only
  exact ⟨k.pi, k.pend, k.st, k.ctl⟩

theorem afterSwitch_keep (env : Env) (p : Program) (c : Conn) (now : Val) : Keep c (afterSwitch env p c now) := by
  have f := (resetState_keep env p c).trans (initRegisterState_keep env p _)
  exact ⟨f.pi, f.pend, f.st, f.ctl⟩

theorem invoke_steady (dp : Dp) (sid : Nat) (p : Program) (c : Conn) (now : Val) (prims : Prims)
    (hc : getConn dp sid = some c) (hst : c.staged = none) (hpend : c.pending = Pending.none)
    (hctl : c.regs.control.length ≤ 110) (hp : lookupIndex dp c.programIndex = some p) :
    invoke dp sid now prims =
      some (setConn dp sid (vmInvoke p ⟨now, 0, prims⟩ c).1, (vmInvoke p ⟨now, 0, prims⟩ c).2) := by
  obtain ⟨a1, a2⟩ := C06.applyPending_none (C06.loadPrims c prims) hpend hctl
  rw [(C06.pending_applied dp sid p c now prims hc hst hp).1, a1, show C06.preObs c.pending = _ from a2]
  rfl

/-- the datapath driven by a sequence of `ccp_invoke` calls on flow `sid` -/
def dpRun (sid : Nat) : Dp → List (Val × Prims) → List Vm.Obs
  | _, [] => []
  | dp, (now, prims) :: rest =>
    match invoke dp sid now prims with
    | none => []
    | some (dp', o) => o :: dpRun sid dp' rest

def envOf (i : Val × Prims) : Env := ⟨i.1, 0, i.2⟩

theorem dpRun_steady (sid : Nat) (p : Program) : ∀ (inputs : List (Val × Prims)) (dp : Dp) (c : Conn),
    getConn dp sid = some c → c.staged = none → c.pending = Pending.none → c.regs.control.length ≤ 110 →
    lookupIndex dp c.programIndex = some p →
    dpRun sid dp inputs = vmRun p c (inputs.map envOf)
  | [], _, _, _, _, _, _, _ => rfl
  | (now, prims) :: rest, dp, c, hc, hst, hpend, hctl, hp => by
    have k := vmInvoke_keep p ⟨now, 0, prims⟩ c
    have ih := dpRun_steady sid p rest (setConn dp sid (vmInvoke p ⟨now, 0, prims⟩ c).1) _
      (getConn_setConn dp sid c _ hc) (k.st.trans hst) (k.pend.trans hpend) (by rw [k.ctl]; exact hctl)
      (by rw [k.pi]; exact hp)
    unfold dpRun
    rw [invoke_steady dp sid p c now prims hc hst hpend hctl hp]
    simp only [List.map_cons, vmRun, envOf]
    rw [ih]

/-- install, start a flow, change-program, then any number of invocations: the datapath is
`vmRun (progOf uid bin)` from the switched state -/
theorem run_decoded (uid : Nat) (bin : Bin) (msg : Bytes)
    (hmsg : serializeInstall (installOf uid bin) = .ok msg)
    (huid : uid < 2^32) (hne256 : bin.events.length ≤ 256) (hni256 : bin.instrs.length ≤ 256)
    (hev : ∀ e ∈ bin.events, evInRange e)
    (hres : ∀ i ∈ bin.instrs, C03.writable i.res = true) :
    ∃ dp1 dp2 dp3, readMsg Dp.init msg = (dp1, 0) ∧ connStart dp1 = some (dp2, 1) ∧
      readMsg dp2 (cpBytes 1 uid) = (dp3, 0) ∧
      ∀ (now : Val) (prims : Prims) (rest : List (Val × Prims)),
        dpRun 1 dp3 ((now, prims) :: rest) =
          vmRun (progOf uid bin)
            (afterSwitch ⟨now, 0, prims⟩ (progOf uid bin) { newConn with programIndex := 1 } now)
            (((now, prims) :: rest).map envOf) := by
  obtain ⟨dp1, h1, hconns, hlu, hli⟩ := install_decodes_msg uid bin msg hmsg huid hne256 hni256 hev hres
  obtain ⟨progs, conns⟩ := dp1
  simp only at hconns
  subst hconns
  have hcs : connStart ⟨progs, Dp.init.conns⟩ = some (⟨progs, Dp.init.conns.set 0 (some newConn)⟩, 1) := rfl
  have hg2 : getConn ⟨progs, Dp.init.conns.set 0 (some newConn)⟩ 1 = some newConn := rfl
  have hcp := readMsg_cpBytes ⟨progs, Dp.init.conns.set 0 (some newConn)⟩ 1 uid 1 newConn (by omega) huid hg2 hlu
  refine ⟨_, _, _, h1, hcs, hcp, ?_⟩
  intro now prims rest
  generalize hp : progOf uid bin = p at hli ⊢
  generalize hdp3 : setConn ⟨progs, Dp.init.conns.set 0 (some newConn)⟩ 1
    { newConn with staged := some 1, pending := Pending.none } = dp3
  have hg3 : getConn dp3 1 = some { newConn with staged := some 1, pending := Pending.none } := by
    rw [← hdp3]; exact getConn_setConn _ 1 _ _ hg2
  have hli3 : lookupIndex dp3 1 = some p := by rw [← hdp3]; exact hli
  have hfirst := invoke_first dp3 1 1 p { newConn with staged := some 1, pending := Pending.none } now prims
    hg3 rfl rfl rfl hli3
  have e0 : ({ ({ newConn with staged := some 1, pending := Pending.none } : Conn) with
      programIndex := 1, staged := none } : Conn) = { newConn with programIndex := 1 } := rfl
  rw [e0] at hfirst
  generalize hcA : afterSwitch ⟨now, 0, prims⟩ p { newConn with programIndex := 1 } now = cA at hfirst ⊢
  have kA : Keep { newConn with programIndex := 1 } cA := by rw [← hcA]; exact afterSwitch_keep ..
  have kB := vmInvoke_keep p ⟨now, 0, prims⟩ cA
  have ih := dpRun_steady 1 p rest (setConn dp3 1 (vmInvoke p ⟨now, 0, prims⟩ cA).1) _
    (getConn_setConn dp3 1 _ _ hg3) (kB.st.trans kA.st) (kB.pend.trans kA.pend)
    (by rw [kB.ctl, kA.ctl]; exact Nat.le_of_eq (List.length_replicate ..))
    (by rw [kB.pi, kA.pi]; exact hli3)
  unfold dpRun
  rw [hfirst]
  simp only [List.map_cons, vmRun, envOf]
  rw [ih]

/-- `run_correct_from_bytes` for the first invocation, which succeeds whatever the source semantics says -/
theorem first_invocation_correct (uid : Nat) (src : List Char) (upd : List (Name × Nat)) (ds : List Decl)
    (evs : List Event) (bin : Bin) (scF : Scope) (img : Bytes) (decls : List Sem.VarDecl) (msg : Bytes)
    (hp : parseSource src = some (ds, evs))
    (hnd : (ds.map (·.var)).Nodup)
    (hfresh : ∀ d ∈ ds, (Scope.new uid).get d.var = none)
    (hc : compile uid src upd = .ok (bin, scF))
    (hser : bin.serialize = .ok img)
    (hv : varDecls ds upd = some decls)
    (hloc : scF.numLocal ≤ 6)
    (hne : evs ≠ [])
    (hst : InOracle evs = true)
    (hlits : LitsOk evs = true) (hwr : WritesOk evs = true)
    (hmsg : serializeInstall (installOf uid bin) = .ok msg)
    (huid : uid < 2^32) (hne256 : bin.events.length ≤ 256) (hni256 : bin.instrs.length ≤ 256)
    (now : Val) (prims : Prims) :
    ∃ dp1 dp2 dp3 dp4 o, readMsg Dp.init msg = (dp1, 0) ∧ connStart dp1 = some (dp2, 1) ∧
      readMsg dp2 (cpBytes 1 uid) = (dp3, 0) ∧ invoke dp3 1 now prims = some (dp4, o) ∧
      match (Sem.run decls evs (Sem.initState decls now) [⟨now, 0, prims⟩]).mapM ofSem with
      | none => True
      | some exp => [ofVm o] = exp := by
  obtain ⟨_, _, _, _, _, hw, _⟩ := C03.compile_wf uid src upd bin scF hc
  obtain ⟨dp1, dp2, dp3, h1, h2, h3, h4⟩ := run_decoded uid bin msg hmsg huid hne256 hni256
    (C03.Tiles_inRange hw.tiles (by omega)) (fun i hi => (hw.instr i hi).1)
  have hrun := h4 now prims []
  have hcorr := compiled_run_correct uid uid src upd ds evs bin scF img decls hp hnd hfresh hc hser hv hloc hne hst
    hlits hwr ⟨now, 0, prims⟩ { newConn with programIndex := 1 } rfl now [⟨now, 0, prims⟩]
  unfold dpRun at hrun
  cases hi : invoke dp3 1 now prims with
  | none => rw [hi] at hrun; cases hrun
  | some r =>
    obtain ⟨dp4, o⟩ := r
    rw [hi] at hrun
    simp only [dpRun, List.map_cons, List.map_nil, vmRun, envOf] at hrun
    refine ⟨dp1, dp2, dp3, dp4, o, h1, h2, h3, hi, ?_⟩
    simp only [vmRun, List.map_cons, List.map_nil] at hcorr
    rw [← (List.cons.inj hrun).1] at hcorr
    exact hcorr

/-- **C01 from bytes, every invocation.** Under the hypotheses of `compiled_run_correct` (the compile-time uid is
the wire uid) plus the uid range and libccp's two array sizes: feed libccp the install message, start a flow,
feed it the change-program message, then invoke it on any sequence of (clock, primitives) inputs — the
observations are those the source semantics denotes, as long as that semantics stays inside the fragment. -/
theorem run_correct_from_bytes (uid : Nat) (src : List Char) (upd : List (Name × Nat)) (ds : List Decl)
    (evs : List Event) (bin : Bin) (scF : Scope) (img : Bytes) (decls : List Sem.VarDecl) (msg : Bytes)
    (hp : parseSource src = some (ds, evs))
    (hnd : (ds.map (·.var)).Nodup)
    (hfresh : ∀ d ∈ ds, (Scope.new uid).get d.var = none)
    (hc : compile uid src upd = .ok (bin, scF))
    (hser : bin.serialize = .ok img)
    (hv : varDecls ds upd = some decls)
    (hloc : scF.numLocal ≤ 6)
    (hne : evs ≠ [])
    (hst : InOracle evs = true)
    (hlits : LitsOk evs = true) (hwr : WritesOk evs = true)
    (hmsg : serializeInstall (installOf uid bin) = .ok msg)
    (huid : uid < 2^32) (hne256 : bin.events.length ≤ 256) (hni256 : bin.instrs.length ≤ 256) :
    ∃ dp1 dp2 dp3, readMsg Dp.init msg = (dp1, 0) ∧ connStart dp1 = some (dp2, 1) ∧
      readMsg dp2 (cpBytes 1 uid) = (dp3, 0) ∧
      ∀ (now : Val) (prims : Prims) (rest : List (Val × Prims)),
        match (Sem.run decls evs (Sem.initState decls now) (((now, prims) :: rest).map envOf)).mapM ofSem with
        | none => True
        | some exp => (dpRun 1 dp3 ((now, prims) :: rest)).map ofVm = exp := by
  obtain ⟨_, _, _, _, _, hw, _⟩ := C03.compile_wf uid src upd bin scF hc
  obtain ⟨dp1, dp2, dp3, h1, h2, h3, h4⟩ := run_decoded uid bin msg hmsg huid hne256 hni256
    (C03.Tiles_inRange hw.tiles (by omega)) (fun i hi => (hw.instr i hi).1)
  refine ⟨dp1, dp2, dp3, h1, h2, h3, ?_⟩
  intro now prims rest
  rw [h4 now prims rest]
  exact compiled_run_correct uid uid src upd ds evs bin scF img decls hp hnd hfresh hc hser hv hloc hne hst
    hlits hwr ⟨now, 0, prims⟩ { newConn with programIndex := 1 } rfl now (((now, prims) :: rest).map envOf)

/-! Non-vacuity: `exSrc_inTheorem` (C01Sim) shows the hypotheses of `compiled_run_correct` for `C13.exSrc` compiled
with uid 3, `exSrc_decodes` above the remaining ones. The `#guard` is a test (compiler-evaluated, not a theorem): the
model datapath fed with the two messages and invoked twice reports `foo = 1 + 9`, `acked = 0` under uid 3. -/

#guard
  (match compile 3 C13.exSrc [("bar".toList, 9)] with
   | .ok (bin, _) =>
     match serializeInstall (installOf 3 bin) with
     | .ok msg =>
       match connStart (readMsg Dp.init msg).1 with
       | some (dp2, 1) =>
         (dpRun 1 (readMsg dp2 (cpBytes 1 3)).1
           [(100, ⟨List.replicate 15 7, 10, 20⟩), (200, ⟨List.replicate 15 7, 10, 20⟩)]).map (·.report)
           == [some (3, [10, 0]), some (3, [10, 0])]
       | _ => false
     | _ => false
   | _ => false)

end Portus.C01
