import PortusModel.Lang.Fragment
import PortusModel.Lemmas.CompileInv
import PortusModel.Lemmas.Literals
import PortusModel.Props.C13
/-!
# `compile ⊑ lower`: on the fragment of C01 the real compiler emits the reference lowering

Inside an expression the scope changes in two ways: reading a never-assigned name creates an untyped local, and a
nested `(:= x r)` may re-type an untyped binding (`bindTarget`). What the proof needs survives: bindings never move
(`Reach.fwd`: same slot, hence the same machine register under the final scope), and the invariant `SelfNamed` —
every binding whose recorded type is `Name s` is the binding of the name `s` itself — is kept by `compile_expr` on
*every* expression: reading a never-assigned name creates such a local, `(:= x y)` with an untyped `y` leaves `x`
untyped, a later `(:= x 3)` re-types `x` through its own name; the re-typing step only ever records a type that is
not a name. Operators reject untyped operands, so an untyped register reaches an instruction only as an operand of
a plain bind, `if`, `!if` or `ewma`. The bind arm is analysed once (`bind_decomp`), and so is the node case of stage 1
(`compileNode_lower`), for statements and nested binds alike: a statement is the expression it is, lowered from
temporary 0 (`lowerStmt_node`).

The invariant depends on the repair F11 of `bind_target` (an untyped right-hand side gives no type to the target).
Without it `(def (Report (acked 0)) (c 0)) (when true (:= x y) (:= x 3))`, `y` never assigned, compiles the second
bind to `bind y y 3`: the first bind copies the type `Name("y")` to `x`, and `update_type` then re-types and
returns the register of `y`. `DefBeforeUse` (end of the file, a definition only) is the hypothesis that excludes such
programs; `cexSrc2_hyps` (`CompileRho.lean`) and `cexSrc2_not_defBeforeUse` (`Props/C01Sim.lean`) show a program outside
it that the theorems cover.

The simulation theorem takes three results from this half: T-A `compile_refines_lower` (the emitted instructions are
the reference lowering), and in `CompileRho.lean` T-B `rhoOk_of_compile` (the final scope is a register assignment as
`RhoOk` asks) and T-C `defsFor_of_compile` (the DEF preamble).
-/
namespace Portus.Lang.Frag
open Portus Portus.Lang Portus.Vm

/-- a register the encoder accepted (`Reg::serialize` gives class and index) -/
def SerR (r : Reg) : Prop := ∃ c x, r.classIdx = .ok (c, x)

/-- an instruction whose three registers the encoder accepted -/
def SerI (i : Instr) : Prop := SerR i.res ∧ SerR i.left ∧ SerR i.right

theorem toVReg_of_classIdx {r : Reg} {c i : Nat} (h : r.classIdx = .ok (c, i)) : toVReg r = ⟨c, i⟩ := by
  simp only [toVReg, h]

theorem SerR_tmp {i : Nat} {t : Ty} (h : SerR (.tmp i t)) : i ≤ 7 :=
  let ⟨_, _, h⟩ := h; (Wire.classIdx_tmp.mp h).1

theorem toVReg_immNum {n : Nat} (h : SerR (.immNum n)) : toVReg (.immNum n) = vImmNum n := by
  obtain ⟨c, x, h⟩ := h
  obtain ⟨-, rfl, rfl⟩ := Wire.classIdx_immNum.mp h
  exact toVReg_of_classIdx h

theorem toVReg_immBool (b : Bool) : toVReg (.immBool b) = vImmBool b := rfl

theorem SerR_immBool (b : Bool) : SerR (.immBool b) := ⟨_, _, rfl⟩

theorem toVReg_tmp {i : Nat} {t : Ty} (h : i ≤ 7) : toVReg (.tmp i t) = vTmp i :=
  toVReg_of_classIdx (Wire.classIdx_tmp.mpr ⟨h, rfl, rfl⟩)

theorem classIdx_slot (r : Reg) : r.slot.classIdx = r.classIdx := by
  cases r <;> rfl

theorem toVReg_of_slot {r r' : Reg} (h : r'.slot = r.slot) : toVReg r' = toVReg r := by
  unfold toVReg
  rw [← classIdx_slot, h, classIdx_slot]

theorem serI_of_serialize {bin : Bin} {img : Bytes} (h : bin.serialize = .ok img) :
    ∀ i ∈ bin.instrs, SerI i := by
  obtain ⟨ib, hs, -⟩ := Bin.serialize_ok h
  intro i hi
  obtain ⟨b, hb⟩ := serializeInstrs_ok_mem hs i hi
  obtain ⟨o, c1, i1, c2, i2, c3, i3, -, e1, e2, e3, -⟩ := Wire.Instr.serialize_ok hb
  exact ⟨⟨_, _, e1⟩, ⟨_, _, e2⟩, ⟨_, _, e3⟩⟩

/-- the environment of the reference lowering: the final scope, types forgotten -/
def rhoOf (scF : Scope) : Rho := fun n => (scF.get n).map toVReg

theorem rhoOf_of_reach {sc scF : Scope} (hr : Reach False sc scF) {x : Name} {r : Reg}
    (hg : sc.get x = some r) : rhoOf scF x = some (toVReg r) := by
  obtain ⟨r', h1, h2⟩ := hr.fwd hg
  simp only [rhoOf, h1, Option.map_some, toVReg_of_slot h2]

theorem opNat_lower {o : Op} {code : Nat} (ho : pureOpcode o = some code) : opNat o.lower = code := by
  cases o <;> simp only [pureOpcode, Option.some.injEq, reduceCtorEq] at ho <;> subst ho <;> rfl

theorem combine_pure {o : Op} {code : Nat} (ho : pureOpcode o = some code) {is : List Instr} {l r : Reg}
    {sc : Scope} {c : CE} (h : combine o is l r sc = .ok c) :
    ∃ t o', c = ⟨is ++ [{ res := .tmp (sc.tmp.length % 256) t, op := o', left := l, right := r }],
                 .tmp (sc.tmp.length % 256) t,
                 { sc with tmp := sc.tmp ++ [.tmp (sc.tmp.length % 256) t] }⟩ ∧
      opNat o' = code := by
  rcases combine_inv h with ⟨ty, t, -, -, -, rfl⟩ | ⟨rfl, -⟩ | ⟨hk, -⟩
  · exact ⟨t, o.lower, rfl, opNat_lower ho⟩
  · cases ho
  · rcases (Op.kind_guard hk).1 with rfl | rfl | rfl <;> cases ho

theorem combine_cond {o : Op} {code : Nat} (ho : condCode o = some code) {is : List Instr} {l r : Reg}
    {sc : Scope} {c : CE} (h : combine o is l r sc = .ok c) :
    c = ⟨is ++ [{ res := .none, op := o, left := l, right := r }], .none, sc⟩ := by
  rcases combine_inv h with ⟨ty, t, hk, -⟩ | ⟨rfl, -⟩ | ⟨-, -, -, e⟩
  · rcases condCode_cases ho with ⟨rfl, -⟩ | ⟨rfl, -⟩ | ⟨rfl, -⟩ <;> cases hk
  · cases ho
  · exact e

theorem compileAtom_name {x : Name} {sc : Scope} {c : CE} (h : compileAtom (.name x) sc = .ok c) :
    c.sc.get x = some c.reg := by
  obtain ⟨-, ⟨e, ⟨b, hp, -⟩ | ⟨n, hp, -⟩ | ⟨y, hp, hg⟩⟩ | ⟨y, hp, -, -, hr, e⟩⟩ := compileAtom_ok h
  · cases hp
  · cases hp
  · cases hp
    rw [e]
    exact hg
  · cases hp
    rw [e, hr]
    exact regGet_regInsert_self _ _ _

theorem compileAtom_basic {p : Prim} {sc : Scope} {c : CE} (h : compileAtom p sc = .ok c) :
    c.instrs = [] ∧ c.sc.tmp = sc.tmp := by
  obtain ⟨hi, ⟨e, -⟩ | ⟨y, -, -, -, -, e⟩⟩ := compileAtom_ok h
  · rw [e]; exact ⟨hi, rfl⟩
  · rw [e]; exact ⟨hi, rfl⟩

theorem compileAtom_lower {scF : Scope} {p : Prim} {sc : Scope} {c : CE} (h : compileAtom p sc = .ok c)
    (hr : Reach False c.sc scF) (hreg : SerR c.reg) (k : Nat) :
    lowerE (rhoOf scF) (.atom p) k = some ⟨[], toVReg c.reg, k⟩ := by
  cases p with
  | bool b => cases h; rfl
  | num n =>
    cases h
    simp only [lowerE, toVReg_immNum hreg]
  | name x =>
    simp only [lowerE, rhoOf_of_reach hr (compileAtom_name h), Option.map_some]

/-- a binding whose recorded type is still a name is the binding of that very name (an untyped local
carries its own name) -/
def SelfNamed (sc : Scope) : Prop := ∀ n r s, sc.get n = some r → r.getType = .name s → s = n

/-- between statements: `SelfNamed`, and the event flag is the implicit register 0 -/
structure Inv (sc : Scope) : Prop where
  selfName : SelfNamed sc
  flag : sc.get flagName = some (.implicit 0 (.bool none))

/-- the re-typing step keeps `SelfNamed` — whatever the operands: it either leaves the scope alone or gives a
binding a recorded type that is not a name -/
theorem bindTarget_selfNamed {left right : Reg} {sc : Scope} {left' : Reg} {sc' : Scope}
    (hs : SelfNamed sc) (h : bindTarget left right sc = .ok (left', sc')) : SelfNamed sc' := by
  rcases bindTarget_ok h with ⟨-, rfl⟩ | ⟨s, r1, -, hnn, h1, h2, rfl⟩
  · exact hs
  · intro n r0 s0 hg hs0
    have hg' : regGet n (regSet s left' sc.named) = some r0 := hg
    rw [regGet_regSet_of_bound h1] at hg'
    split at hg'
    · cases hg'
      rw [Reg.setTy_getType h2] at hs0
      exact absurd hs0 (hnn s0)
    · exact hs n r0 s0 hg' hs0

theorem bindTarget_slot {x : Name} {left right : Reg} {sc : Scope} {left' : Reg} {sc' : Scope} {r0 : Reg}
    (hg : sc.get x = some r0) (hslot : r0.slot = left.slot) (hself : ∀ s, left.getType = .name s → s = x)
    (h : bindTarget left right sc = .ok (left', sc')) : left'.slot = left.slot ∧ sc'.tmp = sc.tmp := by
  rcases bindTarget_ok h with ⟨rfl, rfl⟩ | ⟨s, r1, hs, -, h1, h2, rfl⟩
  · exact ⟨rfl, rfl⟩
  · have := hself s hs
    subst this
    rw [hg] at h1
    cases h1
    exact ⟨(Reg.setTy_slot h2).trans hslot, rfl⟩

theorem compileAtom_selfNamed {p : Prim} {sc : Scope} {c : CE} (hs : SelfNamed sc)
    (h : compileAtom p sc = .ok c) : SelfNamed c.sc := by
  obtain ⟨-, ⟨e, -⟩ | ⟨x, -, -, -, -, e⟩⟩ := compileAtom_ok h
  · rw [e]; exact hs
  · rw [e]
    intro m r s hg ht
    have hg' : regGet m (regInsert x _ sc.named) = some r := hg
    rw [regGet_regInsert] at hg'
    split at hg'
    · cases hg'
      cases ht
      exact (‹m = x›).symm
    · exact hs m r s hg' ht

theorem combine_selfNamed {o : Op} {is : List Instr} {left right : Reg} {sc : Scope} {c : CE}
    (hs : SelfNamed sc) (h : combine o is left right sc = .ok c) : SelfNamed c.sc := by
  rcases combine_inv h with ⟨ty, t, -, -, -, rfl⟩ | ⟨-, hb⟩ | ⟨-, -, -, rfl⟩
  · exact hs
  · exact bindTarget_selfNamed hs (combineBind_inv hb).1
  · exact hs

/-- `SelfNamed` is an invariant of `compile_expr`, in the fragment or not -/
theorem compileExpr_selfNamed {e : Expr} {sc : Scope} {c : CE} (hs : SelfNamed sc)
    (h : compileExpr e sc = .ok c) : SelfNamed c.sc := by
  induction e generalizing sc c with
  | atom p => exact compileAtom_selfNamed hs h
  | cmd _ | none => cases h
  | sexp o le re ihl ihr =>
    obtain ⟨l, r, hl, hr, h⟩ := compileExpr_sexp_ok h
    exact combine_selfNamed (ihr (ihl hs hl) hr) h

/-- the common part of every bind `(:= x rhs)` — a statement or a nested one, from any scope: the left operand is
the binding of `x`; after the right-hand side the re-typing step returns a register in the same slot and leaves
the temporaries alone; the result register replaces the placeholder of a waiting `if` / `!if` / `ewma`, or a `bind`
instruction is appended -/
theorem bind_decomp {x : Name} {rhs : Expr} {sc : Scope} {c : CE} (hsn : SelfNamed sc)
    (h : compileExpr (.sexp .bind (.atom (.name x)) rhs) sc = .ok c) :
    ∃ (l r : CE), compileExpr rhs l.sc = .ok r ∧
      l.sc.tmp = sc.tmp ∧ l.sc.get x = some l.reg ∧ SelfNamed l.sc ∧ Reach False r.sc c.sc ∧
      c.sc.tmp = r.sc.tmp ∧ c.reg.slot = l.reg.slot ∧ c.reg ≠ .none ∧
      ((r.reg = .none ∧ ∃ pre last, r.instrs = pre ++ [last] ∧ last.res = .none ∧
          c.instrs = pre ++ [{ last with res := c.reg }]) ∨
       (r.reg ≠ .none ∧ c.instrs = r.instrs ++ [{ res := c.reg, op := .bind, left := c.reg, right := r.reg }])) := by
  obtain ⟨l, r, hl, hr', h⟩ := compileExpr_sexp_ok h
  obtain ⟨li, lt⟩ := compileAtom_basic hl
  have lg := compileAtom_name hl
  have hsl : SelfNamed l.sc := compileAtom_selfNamed hsn hl
  have hlr : Reach False l.sc r.sc := Reach.of_compileExpr hr'
  obtain ⟨hbt, hi⟩ := combineBind_inv (is := l.instrs ++ r.instrs) h
  rw [li, List.nil_append] at hi
  obtain ⟨r0, hr0, hslot⟩ := hlr.fwd lg
  obtain ⟨g1, g2⟩ := bindTarget_slot hr0 hslot (fun s hs => hsl x l.reg s lg hs) hbt
  refine ⟨l, r, hr', lt, lg, hsl, Reach.of_combine h, g2, g1, combineBind_ne_none h, ?_⟩
  rcases hi with ⟨h1, -, h2⟩ | ⟨h1, -, h2⟩
  · exact .inl ⟨h1, h2⟩
  · exact .inr ⟨h1, h2⟩

/-- the shapes of a node of the fragment — in an expression or as a statement: a bind of a value or of a conditional /
ewma over values, or an operator over values. At statement level the target may be an implicit register and no
hazard condition on the top node is recorded (this half uses neither). -/
theorem node_forms {o : Op} {l r : Expr} (h : valueE (.sexp o l r) = true ∨ stmtOk2 (.sexp o l r) = true) :
    (∃ x, o = .bind ∧ l = .atom (.name x) ∧
      (valueE r = true ∨
       ∃ op a b code, r = .sexp op a b ∧ condCode op = some code ∧ valueE a = true ∧ valueE b = true)) ∨
    (∃ code, pureOpcode o = some code ∧ valueE l = true ∧ valueE r = true) := by
  rcases h with h | h
  · rcases valueE_sexp_cases h with ⟨x, h1, h2, -, h3⟩ | ⟨x, op, a, b, code, h1, h2, h3, h4, -, h5, h6, -⟩ |
      ⟨code, h1, h2, h3, -⟩
    · exact .inl ⟨x, h1, h2, .inl h3⟩
    · exact .inl ⟨x, h1, h2, .inr ⟨op, a, b, code, h3, h4, h5, h6⟩⟩
    · exact .inr ⟨code, h1, h2, h3⟩
  · rcases stmtOk2_cases h with h0 | ⟨o', l', r', code, e, ho, hv⟩ | ⟨x, rhs, e, hf⟩
    · cases h0
    · cases e
      rw [valueE_op ho, Bool.and_eq_true, Bool.and_eq_true] at hv
      exact .inr ⟨code, ho, hv.1.1, hv.1.2⟩
    · cases e
      rcases hf with ⟨op, a, b, code, rfl, hc, ha, hb, -⟩ | hv
      · exact .inl ⟨x, rfl, rfl, .inr ⟨op, a, b, code, rfl, hc, ha, hb⟩⟩
      · exact .inl ⟨x, rfl, rfl, .inl hv⟩

/-- a value expression whose result register is the placeholder has no code (it is then an atom bound to it:
impossible for a consistent scope, but not needed here) -/
theorem value_none_instrs {e : Expr} (hp : valueE e = true) {sc : Scope} {c : CE} (hsn : SelfNamed sc)
    (h : compileExpr e sc = .ok c) (hn : c.reg = .none) : c.instrs = [] := by
  cases e with
  | cmd _ | none => cases hp
  | atom p => exact (compileAtom_basic h).1
  | sexp o le re =>
    exfalso
    rcases node_forms (.inl hp) with ⟨x, rfl, rfl, -⟩ | ⟨code, ho, -⟩
    · obtain ⟨l, r, -, -, -, -, -, -, -, hne, -⟩ := bind_decomp hsn h
      exact hne hn
    · obtain ⟨l, r, -, -, h⟩ := compileExpr_sexp_ok h
      obtain ⟨t, o', rfl, -⟩ := combine_pure ho h
      cases hn

/-- stage 1 for one expression: it compiles to its reference lowering under the final scope `scF`. The last
hypothesis / the second conclusion: at most 8 temporaries are live, so `new_tmp`'s `as u8` is the identity. -/
def Stage1 (scF : Scope) (e : Expr) : Prop :=
  valueE e = true → ∀ {sc : Scope} {c : CE}, SelfNamed sc → compileExpr e sc = .ok c → Reach False c.sc scF →
    (∀ i ∈ c.instrs, SerI i) → SerR c.reg → sc.tmp.length ≤ 8 →
    lowerE (rhoOf scF) e sc.tmp.length = some ⟨c.instrs.map toVInstr, toVReg c.reg, c.sc.tmp.length⟩ ∧
    c.sc.tmp.length ≤ 8

/-- the node case of stage 1, for expressions and statements alike; the hypotheses about the operands have the
shape `Expr.ind2` hands them over in -/
theorem compileNode_lower {scF : Scope} {o : Op} {le re : Expr}
    (hp : valueE (.sexp o le re) = true ∨ stmtOk2 (.sexp o le re) = true)
    (hL : Stage1 scF le) (hR : Stage1 scF re) (hsub : ∀ op a b, re = .sexp op a b → Stage1 scF a ∧ Stage1 scF b)
    {sc : Scope} {c : CE} (hsn : SelfNamed sc)
    (h : compileExpr (.sexp o le re) sc = .ok c) (hr : Reach False c.sc scF)
    (hser : ∀ i ∈ c.instrs, SerI i) (hk : sc.tmp.length ≤ 8) :
    lowerE (rhoOf scF) (.sexp o le re) sc.tmp.length =
      some ⟨c.instrs.map toVInstr, toVReg c.reg, c.sc.tmp.length⟩ ∧
    c.sc.tmp.length ≤ 8 := by
  rcases node_forms hp with ⟨x, rfl, rfl, hrhs⟩ | ⟨code, ho, hpl, hpr⟩
  · obtain ⟨l, r, hr', lt, lg, hsl, hrc, htmp, hslot, -, hi⟩ := bind_decomp hsn h
    have rr : Reach False r.sc scF := hrc.trans hr
    have hρ : rhoOf scF x = some (toVReg c.reg) := by
      rw [toVReg_of_slot hslot]; exact rhoOf_of_reach ((Reach.of_compileExpr hr').trans rr) lg
    rcases hrhs with hvr | ⟨op, a, b, gcode, rfl, hgc, hva, hvb⟩
    · have hi : c.instrs = r.instrs ++ [{ res := c.reg, op := .bind, left := c.reg, right := r.reg }] := by
        rcases hi with ⟨hn, pre, last, e, -⟩ | ⟨-, e⟩
        · rw [value_none_instrs hvr hsl hr' hn] at e
          exact absurd e (by simp)
        · exact e
      rw [hi] at hser ⊢
      obtain ⟨hs1, hlast⟩ := List.forall_mem_append.mp hser
      obtain ⟨er, kr⟩ := hR hvr hsl hr' rr hs1 (List.forall_mem_singleton.mp hlast).2.2 (by rw [lt]; exact hk)
      rw [lt] at er
      refine ⟨?_, by rw [htmp]; exact kr⟩
      obtain ⟨n1, n2, n3⟩ := valueE_not_cond hvr
      rw [lowerE.eq_7 _ _ _ _ n1 n2 n3, hρ, er]
      simp only [List.map_append, List.map_cons, List.map_nil, toVInstr, htmp]
      rfl
    · -- a guarded bind: the operands, then the conditional / ewma instruction, whose placeholder result the
      -- bind replaces by the register of `x`
      obtain ⟨iha, ihb⟩ := hsub op a b rfl
      have hopn : opNat op = gcode := by
        rcases condCode_cases hgc with ⟨rfl, rfl⟩ | ⟨rfl, rfl⟩ | ⟨rfl, rfl⟩ <;> rfl
      obtain ⟨ca, cb, hca, hcb, hr'⟩ := compileExpr_sexp_ok hr'
      have := combine_cond hgc hr'
      subst this
      have hi : c.instrs = ca.instrs ++ cb.instrs ++ [{ res := c.reg, op := op, left := ca.reg, right := cb.reg }] := by
        rcases hi with ⟨-, pre, last, e, -, e'⟩ | ⟨hn, -⟩
        · obtain ⟨e1, e2⟩ := List.append_inj' e rfl
          cases e1
          cases e2
          exact e'
        · exact absurd rfl hn
      rw [hi] at hser ⊢
      obtain ⟨hs1, hs2, hlast⟩ := forall_mem_node hser
      obtain ⟨ea, ka⟩ := iha hva hsl hca ((Reach.of_compileExpr hcb).trans rr) hs1 hlast.2.1 (by rw [lt]; exact hk)
      obtain ⟨eb, kb⟩ := ihb hvb (compileExpr_selfNamed hsl hca) hcb rr hs2 hlast.2.2 ka
      rw [lt] at ea
      refine ⟨?_, by rw [htmp]; exact kb⟩
      rw [lowerE_guard hgc]
      simp only [hρ, ea, eb, htmp, hopn, List.map_append, List.map_cons, List.map_nil, toVInstr]
  · obtain ⟨l, r, hl, hr', h⟩ := compileExpr_sexp_ok h
    obtain ⟨t, o', rfl, hop⟩ := combine_pure ho h
    have rr : Reach False r.sc scF := (Reach.single (Step.tmp _ _)).trans hr
    obtain ⟨hsl, hsr, hlast⟩ := forall_mem_node hser
    obtain ⟨el, kl⟩ := hL hpl hsn hl ((Reach.of_compileExpr hr').trans rr) hsl hlast.2.1 hk
    obtain ⟨er, kr⟩ := hR hpr (compileExpr_selfNamed hsn hl) hr' rr hsr hlast.2.2 kl
    have h7 : r.sc.tmp.length ≤ 7 := by have := SerR_tmp hlast.1; omega
    have hmod : r.sc.tmp.length % 256 = r.sc.tmp.length := Nat.mod_eq_of_lt (by omega)
    refine ⟨?_, by simp only [List.length_append, List.length_singleton]; omega⟩
    rw [lowerE_op ho el er]
    simp only [hmod, toVReg_tmp h7, List.length_append, List.length_singleton,
      List.map_append, List.map_cons, List.map_nil, toVInstr, hop]

theorem stage1 (scF : Scope) : ∀ e, Stage1 scF e := by
  intro e
  induction e using Expr.ind2 with
  | cmd _ | none => intro hp; cases hp
  | atom p =>
    intro _ sc c _ h hr _ hreg hk
    obtain ⟨h1, h2⟩ := compileAtom_basic h
    rw [compileAtom_lower h hr hreg, h1, h2]
    exact ⟨rfl, hk⟩
  | sexp o le re ihl ihr ihsub =>
    intro hp sc c hsn h hr hser _ hk
    exact compileNode_lower (.inl hp) ihl ihr ihsub hsn h hr hser hk

/-- **stage 1.** A value expression (pure, or with hazard-free nested binds) compiles to its reference lowering
under the *final* scope. -/
theorem compileExpr_lower {scF : Scope} {e : Expr} (hp : valueE e = true) {sc : Scope} {c : CE}
    (hsn : SelfNamed sc)
    (h : compileExpr e sc = .ok c) (hr : Reach False c.sc scF)
    (hser : ∀ i ∈ c.instrs, SerI i) (hreg : SerR c.reg) (hk : sc.tmp.length ≤ 8) :
    lowerE (rhoOf scF) e sc.tmp.length = some ⟨c.instrs.map toVInstr, toVReg c.reg, c.sc.tmp.length⟩ ∧
    c.sc.tmp.length ≤ 8 :=
  stage1 scF e hp hsn h hr hser hreg hk

theorem rhs_selfNamed {rhs : Expr} {sc : Scope} {c : CE} (hs : SelfNamed sc)
    (h : compileExpr rhs sc = .ok c) : SelfNamed c.sc := compileExpr_selfNamed hs h

/-- **stage 2.** A statement of the fragment — a plain or guarded bind, or a bare operator expression whose value
is dropped — compiles to its reference lowering: it is the expression it is, from temporary 0. -/
theorem compileStmt_lower {scF : Scope} {o : Op} {l r : Expr} {sc : Scope} {c : CE}
    (hok : stmtOk2 (.sexp o l r) = true) (hinv : Inv sc)
    (h : compileExpr (.sexp o l r) sc.clearTmps = .ok c)
    (hr : Reach False c.sc scF) (hser : ∀ i ∈ c.instrs, SerI i) :
    lowerStmt (rhoOf scF) (.sexp o l r) = some (c.instrs.map toVInstr) ∧ Inv c.sc := by
  have hreach : Reach False sc c.sc := compileTop_reach False.elim h
  have hsn0 : SelfNamed sc.clearTmps := hinv.selfName
  refine ⟨?_, compileExpr_selfNamed hsn0 h, hreach.flag hinv.flag⟩
  obtain ⟨el, -⟩ := compileNode_lower (.inr hok) (stage1 scF l) (stage1 scF r)
    (fun _ a b _ => ⟨stage1 scF a, stage1 scF b⟩) hsn0 h hr hser (Nat.zero_le 8)
  rw [lowerStmt_node, show sc.clearTmps.tmp.length = 0 from rfl] at *
  rw [el]
  rfl

/-- **stage 2, bare statements** -/
theorem compileBare_lower {scF : Scope} {o : Op} {code : Nat} {a b : Expr} {sc : Scope} {c : CE}
    (ho : pureOpcode o = some code) (hv : valueE (.sexp o a b) = true) (hinv : Inv sc)
    (h : compileExpr (.sexp o a b) sc.clearTmps = .ok c)
    (hr : Reach False c.sc scF) (hser : ∀ i ∈ c.instrs, SerI i) :
    lowerStmt (rhoOf scF) (.sexp o a b) = some (c.instrs.map toVInstr) ∧ Inv c.sc :=
  compileStmt_lower (by rw [stmtOk2_bare ho]; exact hv) hinv h hr hser

theorem toVReg_flag : toVReg (.implicit 0 (.bool none)) = vFlag := rfl

theorem compileFlag_lower {scF : Scope} {flag : Expr} {sc : Scope} {is : List Instr}
    {sc1 : Scope} (hp : pureE flag = true) (hinv : Inv sc)
    (h : compileFlag flag sc = .ok (is, sc1)) (hr : Reach False sc1 scF) (hser : ∀ i ∈ is, SerI i) :
    lowerFlag (rhoOf scF) flag = some (is.map toVInstr) ∧ Inv sc1 := by
  obtain ⟨c, fr, hc, hfr, rfl, hforms⟩ := compileFlag_ok h
  have hinv0 : Inv sc.clearTmps := ⟨hinv.selfName, hinv.flag⟩
  have hinvc : Inv c.sc := ⟨compileExpr_selfNamed hinv0.selfName hc, (Reach.of_compileExpr hc).flag hinv0.flag⟩
  rw [hinvc.flag] at hfr
  cases hfr
  refine ⟨?_, hinvc⟩
  cases flag with
  | cmd _ | none => cases hp
  | atom p =>
    obtain ⟨hi, -⟩ := compileAtom_basic hc
    rcases hforms with ⟨-, hne, -⟩ | ⟨⟨b, hreg⟩, rfl⟩
    · exact absurd hi hne
    · have hl := compileAtom_lower hc hr (by rw [hreg]; exact SerR_immBool b) 0
      simp only [lowerFlag, hl, hi, hreg, toVReg_immBool, vImmBool, List.map_cons, List.map_nil,
        toVInstr, List.nil_append, List.map_nil]
      rfl
  | sexp o a b =>
    obtain ⟨⟨code, ho⟩, hpa, hpb⟩ := pureE_sexp hp
    obtain ⟨l, r, hl, hr', hc⟩ := compileExpr_sexp_ok hc
    obtain ⟨t, o', rfl, hop⟩ := combine_pure ho hc
    rcases hforms with ⟨-, -, rfl⟩ | ⟨⟨b, hreg⟩, -⟩
    · rw [setLastRes_append] at hser ⊢
      obtain ⟨hs1, hs2, hlast⟩ := forall_mem_node hser
      have rr : Reach False r.sc scF := (Reach.single (Step.tmp _ _)).trans hr
      obtain ⟨el, kl⟩ := compileExpr_lower (scF := scF) (valueE_of_pure hpa) hinv0.selfName hl
        ((Reach.of_compileExpr hr').trans rr) hs1 hlast.2.1 (Nat.zero_le 8)
      obtain ⟨er, -⟩ := compileExpr_lower (scF := scF) (valueE_of_pure hpb)
        (compileExpr_selfNamed hinv0.selfName hl) hr' rr hs2 hlast.2.2 kl
      rw [show sc.clearTmps.tmp.length = 0 from rfl] at el
      simp only [lowerFlag, lowerE_op ho el er, vTmp, if_true, List.isEmpty_iff, List.append_eq_nil_iff,
        reduceCtorEq, and_false, if_false, setLastRet_snoc, List.map_append, List.map_cons,
        List.map_nil, toVInstr, hop, toVReg_flag]
    · cases hreg

theorem compileBody_lower {scF : Scope} {body : List Expr} {sc : Scope} {is : List Instr}
    {sc' : Scope} (hst : ∀ e ∈ body, stmtOk2 e = true) (hinv : Inv sc)
    (h : compileBody body sc = .ok (is, sc')) (hr : Reach False sc' scF) (hser : ∀ i ∈ is, SerI i) :
    lowerBody (rhoOf scF) body = some (is.map toVInstr) ∧ Inv sc' := by
  induction body generalizing sc is with
  | nil =>
    cases h
    exact ⟨rfl, hinv⟩
  | cons e rest ih =>
    have hrest : ∀ e ∈ rest, stmtOk2 e = true := fun e he => hst e (List.mem_cons_of_mem _ he)
    rcases compileBody_cons_ok h with ⟨rfl, h⟩ | ⟨hne, c, is', hc, -, hq, rfl⟩
    · obtain ⟨e1, e2⟩ := ih hrest hinv h hser
      exact ⟨by simp only [lowerBody, lowerStmt, e1, List.nil_append], e2⟩
    · cases e with
      | none => exact absurd rfl hne
      | sexp o a b =>
        obtain ⟨hs1, hs2⟩ := List.forall_mem_append.mp hser
        obtain ⟨s1, s2⟩ := compileStmt_lower (scF := scF) (hst _ List.mem_cons_self) hinv hc
          ((Reach.of_compileBody hq).trans hr) hs1
        obtain ⟨e1, e2⟩ := ih hrest s2 hq hs2
        exact ⟨by simp only [lowerBody, s1, e1, List.map_append], e2⟩
      | _ => cases hst _ List.mem_cons_self

def evToExpr (e : EvRec) : Libccp.Expr :=
  { condStart := e.flagIdx, numCond := e.numFlag, eventStart := e.bodyIdx, numEvent := e.numBody }

theorem compileEvents_lower {scF : Scope} {evs : List Event} {idx : Nat} {sc : Scope} {cp : CP}
    (hst : InOracle evs = true) (hinv : Inv sc)
    (h : compileEvents evs idx sc = .ok cp) (hr : Reach False cp.sc scF) (hser : ∀ i ∈ cp.instrs, SerI i) :
    lowerEvents (rhoOf scF) evs idx = some ⟨cp.events.map evToExpr, cp.instrs.map toVInstr⟩ := by
  induction evs generalizing idx sc cp with
  | nil =>
    cases h
    rfl
  | cons ev rest ih =>
    simp only [InOracle, List.all_cons, Bool.and_eq_true] at hst
    obtain ⟨⟨hpf, hsb⟩, hsr⟩ := hst
    obtain ⟨fi, sc1, bi, sc2, tail, h1, h2, h3, rfl⟩ := compileEvents_cons_ok h
    simp only [List.forall_mem_append] at hr hser
    obtain ⟨⟨hs1, hs2⟩, hs3⟩ := hser
    have r2 : Reach False sc2 scF := (Reach.of_compileEvents h3).trans hr
    have r1 : Reach False sc1 scF := (Reach.of_compileBody h2).trans r2
    obtain ⟨f1, f2⟩ := compileFlag_lower (scF := scF) hpf hinv h1 r1 hs1
    obtain ⟨b1, b2⟩ := compileBody_lower (scF := scF) (List.all_eq_true.mp hsb) f2 h2 r2 hs2
    have t1 := ih (by simpa [InOracle] using hsr) b2 h3 hr hs3
    simp only [lowerEvents, f1, b1, List.length_map, t1, List.map_cons, List.map_append, evToExpr]

theorem start_inv {uid : Nat} {src : List Char} {ds : List Decl} {evs : List Event} {sc0 : Scope}
    (hp : parseSource src = some (ds, evs)) (h0 : declareAll (Scope.new uid) ds = .ok sc0)
    (upd : List (Name × Nat)) :
    Inv (applyUpdates sc0 upd) :=
  ⟨fun n r s hg hs => absurd hs (C13.start_noName hp h0 upd n r hg s), (start_scInv hp h0 upd).flag⟩

/-- **T-A (`compile ⊑ lower`).** On a program of the fragment `InOracle` (pure conditions; statements that bind
value expressions — pure, or with hazard-free nested binds — or conditionals / ewma over such operands) that
the compiler and the encoder accept, the compiler emits exactly the reference lowering under the final scope —
whether or not names are read before they are assigned. (`noHazard` is not used by this half: the compiler
agrees with the lowering on every program whose expressions have these *shapes*; hazard freedom is what makes
the lowering compute the source semantics.) -/
theorem compile_refines_lower (uid : Nat) (src : List Char) (upd : List (Name × Nat)) (ds : List Decl)
    (evs : List Event) (sc0 : Scope) (bin : Bin) (scF : Scope) (img : Bytes)
    (hp : parseSource src = some (ds, evs))
    (h0 : declareAll (Scope.new uid) ds = .ok sc0)
    (hc : compileProg evs (applyUpdates sc0 upd) = .ok (bin, scF))
    (hst : InOracle evs = true)
    (hser : bin.serialize = .ok img) :
    lowerProg (fun n => (scF.get n).map toVReg) ((defInstrs (applyUpdates sc0 upd).named).map toVInstr) evs =
      some ⟨bin.events.map (fun e => ({ condStart := e.flagIdx, numCond := e.numFlag, eventStart := e.bodyIdx,
                                         numEvent := e.numBody } : Libccp.Expr)),
            bin.instrs.map toVInstr⟩ := by
  have hsi := serI_of_serialize hser
  obtain ⟨cp, hcp, rfl, rfl⟩ := compileProg_ok hc
  have key := compileEvents_lower (scF := cp.sc) hst (start_inv hp h0 upd) hcp (Reach.refl _)
    (fun i hi => hsi i (List.mem_append_right _ hi))
  unfold lowerProg
  rw [List.length_map]
  show Option.map _ (lowerEvents (rhoOf cp.sc) evs _) = _
  rw [key]
  simp only [Option.map_some, List.map_append]
  rfl

/-! `DefBeforeUse`: the hypothesis the half would need without the repair F11 (header). No theorem assumes it. -/

def readsE : Expr → List Name
  | .atom (.name x) => [x]
  | .sexp _ l r => readsE l ++ readsE r
  | _ => []

def stmtReads : Expr → List Name
  | .sexp .bind (.atom (.name _)) r => readsE r
  | _ => []

def stmtWrites : Expr → List Name
  | .sexp .bind (.atom (.name x)) _ => [x]
  | _ => []

/-- every statement reads only names in `B` or assigned by an earlier statement -/
def bodyBound (B : List Name) : List Expr → Bool
  | [] => true
  | e :: rest => (stmtReads e).all (fun x => B.contains x) && bodyBound (stmtWrites e ++ B) rest

/-- `B` plus the names the statements assign -/
def bodyOut (B : List Name) : List Expr → List Name
  | [] => B
  | e :: rest => bodyOut (stmtWrites e ++ B) rest

def eventsBound (B : List Name) : List Event → Bool
  | [] => true
  | ev :: rest =>
    (readsE ev.flag).all (fun x => B.contains x) && bodyBound B ev.body && eventsBound (bodyOut B ev.body) rest

/-- **no use before definition**: in program order (events in source order, the condition of an event
before its statements), every name read by a condition or by the right-hand side of a statement is a
built-in name, a declared variable, or the target of an earlier statement -/
def DefBeforeUse (ds : List Decl) (evs : List Event) : Bool :=
  eventsBound ((primNames ++ implNames).map (·.toList) ++ ds.map (·.var)) evs

end Portus.Lang.Frag
