/-!
# Kernel evaluation of statements about concrete program texts

The kernel reads a string literal as `String.ofList ['a', 'b', …]`; evaluating `String.toList` on that
encodes the characters to UTF-8 and decodes them again, at a cost per character that grows with the length
of the text (for a program of 130 characters, six times what the whole parser model then spends on it).
`String.toList_ofList` gives the character list without evaluation: the kernel only has to see that the
literal *is* `String.ofList` of that list.

The trap: a goal must never be *changed* to an equal one below a `match`. Asked to compare
`match f a with …` and `match f b with …`, the kernel does not compare `a` and `b` first (matchers
unfold eagerly); it evaluates `f a` and `f b`. So the text is replaced by a variable first, syntactically,
and the equation between the text and its characters is transformed on its own.

The model's own tables (built-in names, operator spellings) are `"…".toList` too, and no rewriting reaches
those: they cost every evaluation about as much as a short program does, but one evaluation converts each
literal only once. Hence several statements about several programs are best decided as one conjunction.
-/

/-- replace the program text `d` (defined as `"…".toList`, possibly of a `++` of literals) by its characters -/
macro "text_chars" d:ident : tactic => `(tactic| (
  generalize h : $d = s
  unfold $d at h
  (repeat rw [String.toList_append] at h)
  (repeat rw [String.toList_ofList] at h)
  subst h))

/-- decide, by one kernel evaluation, a closed statement about the program texts `ds` -/
macro "decide_text" "[" ds:ident,* "]" : tactic => `(tactic| ($[text_chars $ds];* ; decide +kernel))

/-- the same for texts written in the statement itself, as arguments of ordinary functions (not below a `match`) -/
macro "decide_text" : tactic =>
  `(tactic| ((repeat rw [String.toList_append]); (repeat rw [String.toList_ofList]); decide +kernel))
