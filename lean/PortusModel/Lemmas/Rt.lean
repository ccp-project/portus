import PortusModel.Rt.Run
import PortusModel.Lemmas.Ctl
import PortusModel.Lemmas.Assoc
import PortusModel.Lemmas.Handle
/-! The dispatch-loop model below one loop turn: the flow map read through `cur`/`curNo`, the two handle calls
(no panic, which header they send), and `runUser_spec`: what bounded user code leaves in the event log. -/
namespace Portus.Rt
open Portus Portus.Lang Portus.Wire Portus.Ipc

theorem lookup_setAddr {σ : Type} (flows : List (Addr × List (Nat × Flow σ))) (a b : Addr)
    (fm : List (Nat × Flow σ)) :
    (setAddr flows a fm).lookup b = if b = a then some fm else flows.lookup b :=
  Assoc.lookup_cons_filter_ne flows a fm b

/-- the flat partial map `(datapath address, flow id) ⇀ flow`: the specification's state -/
def cur {σ : Type} (st : St σ) (a : Addr) (s : Nat) : Option (Flow σ) :=
  (st.flows.lookup a).bind fun fm => fm.lookup s

def curNo {σ : Type} (st : St σ) (a : Addr) (s : Nat) : Option Nat := (cur st a s).map (·.no)

abbrev St.fm {σ : Type} (st : St σ) (a : Addr) : List (Nat × Flow σ) := (st.flows.lookup a).getD []

theorem cur_eq {σ : Type} (st : St σ) (a : Addr) (s : Nat) : cur st a s = (st.fm a).lookup s := by
  unfold cur St.fm
  cases st.flows.lookup a <;> rfl

theorem curNo_eq {σ : Type} (st : St σ) (a : Addr) (s : Nat) : curNo st a s = ((st.fm a).lookup s).map (·.no) := by
  rw [curNo, cur_eq]

theorem fm_of_cur {σ : Type} {st : St σ} {a : Addr} {s : Nat} {f : Flow σ} (h : cur st a s = some f) :
    st.flows.lookup a = some (st.fm a) := by
  obtain ⟨fm, hl, _⟩ := Option.bind_eq_some_iff.mp h
  rw [St.fm, hl]
  rfl

theorem applySf_eq {σ : Type} (st : St σ) (passed : List Rx) : ∃ k, applySf st passed = { st with sendFail := k } := by
  unfold applySf
  split
  · exact ⟨_, rfl⟩
  · exact ⟨st.sendFail, rfl⟩

theorem setProgram_no_panic (scopeMap : List (String × Scope)) (sid : Nat) (p : String)
    (f : Option (List (Name × Nat))) (hlen : (f.getD []).length < 2^24) :
    setProgram scopeMap sid p f ≠ .panic := by
  unfold setProgram
  cases scopeMap.lookup p with
  | none => simp
  | some sc =>
    refine Out.bind_no_panic _ _ (resolveFields_no_panic sc _) fun rs hr => ?_
    obtain ⟨hl, hn⟩ := resolveFields_regs hr
    refine Out.bind_no_panic _ _ ?_ fun _ _ => by simp
    unfold serializeChangeProg u32LenP
    rw [if_neg (by simp only [hl]; omega)]
    exact serializeWith_ne_panic (Out.bind_no_panic _ _ (serializeUpdates_ne_panic rs hn) fun _ _ => by simp)

theorem setProgram_ok {scopeMap : List (String × Scope)} {sid : Nat} {p : String}
    {f : Option (List (Name × Nat))} {sc : Scope} {b : Bytes} (h : setProgram scopeMap sid p f = .ok (sc, b)) :
    scopeMap.lookup p = some sc ∧ rd16 b = 4 ∧ rd32 (b.drop 4) = sid % 2^32 ∧ rd32 (b.drop 8) = sc.uid % 2^32 := by
  unfold setProgram at h
  cases hl : scopeMap.lookup p with
  | none => simp [hl] at h
  | some sc' =>
    simp only [hl] at h
    obtain ⟨rs, _, h⟩ := Out.bind_eq_ok.mp h
    obtain ⟨b', hs, h⟩ := Out.bind_eq_ok.mp h
    cases h
    exact ⟨rfl, serializeChangeProg_hdr hs⟩

theorem updateField_no_panic (sc : Scope) (sid : Nat) (f : List (Name × Nat)) : updateField sc sid f ≠ .panic := by
  unfold updateField
  refine Out.bind_no_panic _ _ (resolveFields_no_panic sc f) fun rs hr => ?_
  split
  · simp
  · unfold serializeUpdateField
    exact serializeWith_ne_panic
      (Out.bind_no_panic _ _ (serializeUpdates_ne_panic rs (resolveFields_regs hr).2) fun _ _ => by simp)

theorem updateField_ok {sc : Scope} {sid : Nat} {f : List (Name × Nat)} {b : Bytes}
    (h : updateField sc sid f = .ok b) : rd16 b = 3 ∧ rd32 (b.drop 4) = sid % 2^32 := by
  unfold updateField at h
  obtain ⟨rs, _, h⟩ := Out.bind_eq_ok.mp h
  split at h
  · cases h
  · exact serializeUpdateField_hdr h

/-- no field list is absurdly long: `get_hdr` computes the length `16 + 13·n` in `u32` (`Wire.u32LenP`); any
`n < 2^28` keeps that below `2^32`, and `2^24` is a round bound of that kind -/
def UProg.Bounded {σ : Type} : UProg σ → Prop
  | .done _ => True
  | .log _ k => k.Bounded
  | .setProgram _ f k => (f.getD []).length < 2^24 ∧ ∀ r, (k r).Bounded
  | .updateField _ _ k => ∀ b, (k b).Bounded

structure Policy.Bounded {σ : Type} (pol : Policy σ) : Prop where
  newFlow : ∀ a n i, (pol.newFlow a n i).Bounded
  onReport : ∀ s a u f, (pol.onReport s a u f).Bounded
  onClose : ∀ s, (pol.onClose s).Bounded

/-- what a flow's user code can cause: a (possibly failed) send of a change-program/update-field message
carrying the flow's own id to the flow's own address, or a log line. Header layout (`Wire.serializeHeader`): type at
offset 0 (`4 = Wire.CHANGEPROG`, `3 = Wire.UPDATE_FIELD`), flow id at 4; a change-program has its uid at 8. -/
def UserEv (addr sid flow : Nat) (e : Ev) : Prop :=
  e = .txFail addr ∨
  (∃ b, e = .tx addr b ∧ (rd16 b = 4 ∨ rd16 b = 3) ∧ rd32 (b.drop 4) = sid % 2^32) ∨
  (∃ m, e = .log flow m)

/-- change-program messages sent by user code name a configured program's uid -/
def UidOk (cfg : Cfg) (e : Ev) : Prop :=
  ∀ a b, e = .tx a b → rd16 b = 4 → ∃ p ∈ cfg.progs, rd32 (b.drop 8) = p.scope.uid % 2^32

def UserEvs (cfg : Cfg) (addr sid flow : Nat) (evs : List Ev) : Prop := ∀ e ∈ evs, UserEv addr sid flow e ∧ UidOk cfg e

theorem UserEvs.cons {cfg : Cfg} {addr sid flow : Nat} {e : Ev} {evs : List Ev} (h1 : UserEv addr sid flow e)
    (h2 : UidOk cfg e) (h : UserEvs cfg addr sid flow evs) : UserEvs cfg addr sid flow (e :: evs) :=
  List.forall_mem_cons.mpr ⟨⟨h1, h2⟩, h⟩

theorem UidOk.of_not_tx {cfg : Cfg} {e : Ev} (h : ∀ a b, e ≠ .tx a b) : UidOk cfg e :=
  fun a b he => absurd he (h a b)

theorem sendTo_cases (to : Addr) (b : Bytes) (sf : Nat) :
    sendTo to b sf = (false, sf - 1, .txFail to) ∧ 0 < sf ∨ sendTo to b sf = (true, sf, .tx to b) ∧ sf = 0 := by
  unfold sendTo
  by_cases h : sf > 0
  · exact Or.inl ⟨by simp [h], h⟩
  · exact Or.inr ⟨by simp [h], by omega⟩

/-- the shared tail of the two command cases of `runUser_spec`: the send, then the hypothesis `ih` on the continuation -/
theorem runUser_send {σ : Type} (cfg : Cfg) (addr sid flow : Nat) (g : Bool → UProg σ) (b : Bytes) (sf : Nat)
    (acc : List Ev) (hb : UserEv addr sid flow (.tx addr b)) (hu : UidOk cfg (.tx addr b))
    (ih : ∀ ok sf acc, ∃ u sf' evs, runUser cfg addr sid flow (g ok) sf acc = .ok (u, sf', acc ++ evs) ∧ sf' ≤ sf ∧
      UserEvs cfg addr sid flow evs) :
    ∃ u sf' evs, runUser cfg addr sid flow (g (sendTo addr b sf).1) (sendTo addr b sf).2.1
        (acc ++ [(sendTo addr b sf).2.2]) = .ok (u, sf', acc ++ evs) ∧ sf' ≤ sf ∧ UserEvs cfg addr sid flow evs := by
  rcases sendTo_cases addr b sf with ⟨h, _⟩ | ⟨h, _⟩ <;> rw [h]
  · obtain ⟨u, sf', evs, hr, hle, hev⟩ := ih false (sf - 1) (acc ++ [.txFail addr])
    exact ⟨u, sf', .txFail addr :: evs, by simp [hr], by omega,
      hev.cons (Or.inl rfl) (UidOk.of_not_tx fun _ _ h => by cases h)⟩
  · obtain ⟨u, sf', evs, hr, hle, hev⟩ := ih true sf (acc ++ [.tx addr b])
    exact ⟨u, sf', .tx addr b :: evs, by simp [hr], hle, hev.cons hb hu⟩

/-- **Bounded user code runs to completion**: it only appends events of its own flow and never raises the
send-failure budget. -/
theorem runUser_spec {σ : Type} (cfg : Cfg) (addr sid flow : Nat) (p : UProg σ) (hb : p.Bounded)
    (sf : Nat) (acc : List Ev) :
    ∃ u sf' evs, runUser cfg addr sid flow p sf acc = .ok (u, sf', acc ++ evs) ∧ sf' ≤ sf ∧
      UserEvs cfg addr sid flow evs := by
  induction p generalizing sf acc with
  | done s => exact ⟨s, sf, [], by simp [runUser], Nat.le_refl _, by simp [UserEvs]⟩
  | log m k ih =>
    obtain ⟨u, sf', evs, h, hle, hev⟩ := ih hb sf (acc ++ [.log flow m])
    exact ⟨u, sf', .log flow m :: evs, by simp [runUser, h], hle,
      hev.cons (Or.inr (Or.inr ⟨m, rfl⟩)) (UidOk.of_not_tx fun _ _ h => by cases h)⟩
  | setProgram pn f k ih =>
    simp only [runUser]
    cases hs : setProgram cfg.scopeMap sid pn f with
    | panic => exact absurd hs (setProgram_no_panic cfg.scopeMap sid pn f hb.1)
    | err => exact ih none (hb.2 none) sf acc
    | ok q =>
      obtain ⟨sc, b⟩ := q
      obtain ⟨hl, ht, hsid, huid⟩ := setProgram_ok hs
      refine runUser_send cfg addr sid flow (fun ok => k (if ok then some sc else none)) b sf acc
        (Or.inr (Or.inl ⟨b, rfl, Or.inl ht, hsid⟩)) ?_ (fun ok => ih _ (hb.2 _))
      intro a b' hh _
      cases hh
      obtain ⟨q, hq, e⟩ := List.mem_map.mp (Assoc.mem_of_lookup hl)
      exact ⟨q, hq, (Prod.mk.inj e).2 ▸ huid⟩
  | updateField sc f k ih =>
    simp only [runUser]
    cases hs : updateField sc sid f with
    | panic => exact absurd hs (updateField_no_panic sc sid f)
    | err => exact ih false (hb false) sf acc
    | ok b =>
      obtain ⟨ht, hsid⟩ := updateField_ok hs
      refine runUser_send cfg addr sid flow k b sf acc (Or.inr (Or.inl ⟨b, rfl, Or.inr ht, hsid⟩)) ?_
        (fun ok => ih _ (hb _))
      intro a b' hh h4
      cases hh
      rw [ht] at h4
      cases h4

end Portus.Rt
