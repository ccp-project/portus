import PortusModel.Lemmas.UidIndep
import PortusModel.Lemmas.Parser
/-!
# C20 — the documented language is accepted, and layout does not change meaning

Layout independence is in `Props/C20Layout.lean`, acceptance (`Typing.well_typed_accepted`) in `Lemmas/AcceptProg.lean`.
-/
namespace Portus.C20
open Portus Portus.Lang

/-- **Comments among the statements of an event do not lower to anything**: the compiled body depends
only on the non-comment statements. -/
theorem comments_do_not_lower (body : List Expr) (sc : Scope) :
    compileBody (body.filter (· ≠ .none)) sc = compileBody body sc := by
  induction body generalizing sc with
  | nil => rfl
  | cons e rest ih =>
    by_cases he : e = .none
    · subst he
      rw [List.filter_cons_of_neg (by simp), compileBody, if_pos rfl]
      exact ih sc
    · rw [List.filter_cons_of_pos (by simpa using he)]
      simp only [compileBody, he, if_false, ih]

theorem compileEvents_strip (evs : List Event) (idx : Nat) (sc : Scope) :
    compileEvents (stripNone evs) idx sc = compileEvents evs idx sc := by
  induction evs generalizing idx sc with
  | nil => rfl
  | cons ev rest ih =>
    simp only [stripNone, List.map_cons, compileEvents, comments_do_not_lower] at ih ⊢
    simp only [ih]

theorem comments_irrelevant (evs evs' : List Event) (h : stripNone evs = stripNone evs') (sc : Scope) :
    compileProg evs sc = compileProg evs' sc := by
  unfold compileProg
  simp only
  rw [← compileEvents_strip evs, ← compileEvents_strip evs', h]

/-- **Compiling the same source twice** (under any two uids) gives the same instructions and event
table and the same name-to-register mapping; the scopes differ in the uid only. -/
theorem compile_deterministic (u v : Nat) (src : List Char) (upd : List (Name × Nat)) :
    (∀ bin sc, compile u src upd = .ok (bin, sc) → compile v src upd = .ok (bin, sc.withUid v)) ∧
    (compile u src upd = .err → compile v src upd = .err) ∧
    (∀ bin sc n, compile u src upd = .ok (bin, sc) → (sc.withUid v).get n = sc.get n) := by
  have h := compile_uid_indep u v src upd
  refine ⟨?_, ?_, ?_⟩
  · intro bin sc hc; rw [h, hc]; rfl
  · intro hc; rw [h, hc]; rfl
  · intro bin sc n _; rfl

theorem compileAndSerialize_uid_indep (u v : Nat) (src : List Char) (upd : List (Name × Nat)) :
    compileAndSerialize v src upd = mapOut (fun p => (p.1, p.2.withUid v)) (compileAndSerialize u src upd) := by
  simp only [compileAndSerialize, compile_uid_indep u v, bind_mapOut, mapOut_bind]
  rfl

/-- the serialized image is the same too -/
theorem image_deterministic (u v : Nat) (src : List Char) (upd : List (Name × Nat)) (img : Bytes) (sc : Scope)
    (h : compileAndSerialize u src upd = .ok (img, sc)) :
    compileAndSerialize v src upd = .ok (img, sc.withUid v) := by
  rw [compileAndSerialize_uid_indep u v, h]
  rfl

/-- **Both spellings of each of the sixteen operators** (symbolic and word) are read as the same
operator, whatever follows: the closed table of `ast::op`, with no alternative shadowing a later one. -/
theorem spelling_table : ∀ p ∈ opTable, ∀ rest, op (p.1 ++ rest) = some (p.2, rest) :=
  Lang.spelling_table

/-- the sixteen operators, each with two spellings except `if`, `!if`, `ewma`, `max`, `min`, `wrapped_max` -/
theorem spellings_cover : (opTable.map (·.2)).eraseDups.length = 16 := by decide +kernel

end Portus.C20
