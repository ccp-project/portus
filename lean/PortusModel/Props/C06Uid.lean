import PortusModel.Lemmas.Datapath
import PortusModel.Props.C17
/-!
# C06 — "libccp accepts it and behaves accordingly": the program uid that libccp treats as a marker

libccp 1.2.0 (`ccp_read_msg`) empties its whole program table whenever an INSTALL message carries program uid 1 — its way of
noticing that a new CCP process has started. So the uids portus puts into install messages must be such that
* the FIRST program a process compiles gets uid 1 (a restarted CCP makes the datapath forget the previous CCP's programs), and
* no LATER program gets uid 1 (or the datapath forgets programs that flows are about to select).
Both are facts about `get_next_uid!` (translated from /repo into `Generated/UidOp.lean` on every run) and about libccp's table
(modelled in `Vm/Datapath.lean`, tied to the real libccp by the C driver).
-/
namespace Portus.C06
open Portus Portus.Vm Portus.Conc Portus.C17

/-- the uid returned by the `n`-th allocation of a process (`n = 0` first), allocations taken one after the other -/
def nthUid (n : Nat) : Nat := (Generated.counterInit + rmwK * n + Generated.retDelta) % M

theorem first_uid_is_marker : nthUid 0 = 1 := by decide

/-- `hM`: until the 32-bit counter wraps -/
theorem later_uid_not_marker (n : Nat) (hn : 1 ≤ n) (hM : Generated.counterInit + rmwK * n + Generated.retDelta < M) :
    nthUid n ≠ 1 := by
  unfold nthUid
  rw [Nat.mod_eq_of_lt hM]
  have h0 : Generated.counterInit + rmwK * 0 + Generated.retDelta = 1 := by decide
  have hk := generated_is_single_rmw.2
  have : rmwK * n ≥ 1 := Nat.mul_pos hk hn
  simp only [Nat.mul_zero, Nat.add_zero] at h0
  omega

/-- installing a program under another uid (into a table that is not full) leaves every installed program where it was -/
theorem installProgram_keeps (dp : Dp) (uid u : Nat) (ex : List Libccp.Expr) (ims : List Libccp.InstrMsg)
    (hfull : (installProgram dp uid ex ims).2 ≠ -81) (hne : uid ≠ u) :
    lookupUid (installProgram dp uid ex ims).1 u = lookupUid dp u := by
  unfold installProgram at hfull ⊢
  split at hfull
  · exact absurd rfl hfull
  · rename_i k hk
    obtain ⟨j, hj, hl, hz⟩ := findFree_spec _ _ _ hk
    have hjk : j = k := by omega
    subst hjk
    simp only at hfull ⊢
    split at hfull
    · exact absurd rfl hfull
    · rename_i hp
      rw [if_neg hp]
      simp only [lookupUid]
      rw [find?_set_irrelevant _ dp.programs j _ hl (by simp [hz]) (by simp [hne])]

/-- what `ccp_read_msg` does with an INSTALL: uid 1 first empties the table -/
def installMsg (dp : Dp) (uid : Nat) (ex : List Libccp.Expr) (ims : List Libccp.InstrMsg) : Dp × Int :=
  installProgram (if uid = 1 then { dp with programs := List.replicate 10 (0, emptyProgram) } else dp) uid ex ims

/-- `installMsg` is `ccp_read_msg` on every buffer libccp's reader takes apart into an INSTALL -/
theorem readMsg_install (dp : Dp) (buf : Bytes) (sid uid : Nat) (ex : List Libccp.Expr) (ims : List Libccp.InstrMsg)
    (h : Libccp.readMsg buf = some (.install sid uid ex ims)) : readMsg dp buf = installMsg dp uid ex ims :=
  readMsg_of_libccp dp buf _ h

theorem install_nonmarker_keeps (dp : Dp) (uid u : Nat) (ex : List Libccp.Expr) (ims : List Libccp.InstrMsg)
    (h1 : uid ≠ 1) (hfull : (installMsg dp uid ex ims).2 ≠ -81) (hne : uid ≠ u) :
    lookupUid (installMsg dp uid ex ims).1 u = lookupUid dp u := by
  unfold installMsg at hfull ⊢
  rw [if_neg h1] at hfull ⊢
  exact installProgram_keeps dp uid u ex ims hfull hne

/-- an INSTALL carrying the marker makes libccp forget every other program: a change-program naming one then fails -/
theorem install_marker_forgets (dp : Dp) (u : Nat) (ex : List Libccp.Expr) (ims : List Libccp.InstrMsg) (hne : u ≠ 1) :
    lookupUid (installMsg dp 1 ex ims).1 u = none := by
  unfold installMsg
  rw [if_pos rfl]
  simp only [installProgram, List.replicate, findFree, if_true]
  simp [lookupUid, List.find?, Ne.symm hne, emptyProgram]

/-- hence the history a fresh CCP produces — uids `nthUid 0, nthUid 1, …` installed in allocation order — keeps all of them:
installing the `n`-th (`n ≥ 1`) never empties the table -/
theorem fresh_history_keeps (dp : Dp) (n u : Nat) (ex : List Libccp.Expr) (ims : List Libccp.InstrMsg) (hn : 1 ≤ n)
    (hM : Generated.counterInit + rmwK * n + Generated.retDelta < M)
    (hfull : (installMsg dp (nthUid n) ex ims).2 ≠ -81) (hne : nthUid n ≠ u) :
    lookupUid (installMsg dp (nthUid n) ex ims).1 u = lookupUid dp u :=
  install_nonmarker_keeps dp _ u ex ims (later_uid_not_marker n hn hM) hfull hne

end Portus.C06
