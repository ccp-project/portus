import PortusModel.Rt.Handle
/-! The field rule of the handle commands (`Datapath::{set_program, update_field}`) in closed form: which names
resolve, and to what. Stated with C11's `updatable` / `regOf`; the facts the runtime lemmas need (no panic, only
real registers) are read off it. -/
namespace Portus.C11
open Portus Portus.Lang Portus.Wire Portus.Rt

/-- a field the handle accepts: not reserved, bound to a control register or to `Cwnd`/`Rate` -/
def updatable (sc : Scope) (n : Name) : Bool :=
  !("__".toList.isPrefixOf n) &&
  match sc.get n with
  | some (.control ..) => true
  | some (.implicit i _) => i == 4 || i == 5
  | _ => false

/-- the register a field name denotes (meaningful when `updatable`) -/
def regOf (sc : Scope) (n : Name) : Reg := (sc.get n).getD .none

theorem _root_.Portus.Rt.resolveField_eq (sc : Scope) (f : Name × Nat) :
    resolveField sc f = if updatable sc f.1 then .ok (regOf sc f.1, f.2) else .err := by
  unfold resolveField updatable regOf
  generalize "__".toList.isPrefixOf f.1 = q
  cases q with
  | true => rfl
  | false =>
    simp only [Bool.false_eq_true, if_false, Bool.not_false, Bool.true_and]
    cases hg : sc.get f.1 with
    | none => rfl
    | some r =>
      cases r with
      | implicit i t => by_cases h : i = 4 ∨ i = 5 <;> simp [h]
      | _ => rfl

theorem _root_.Portus.Rt.resolveFields_eq (sc : Scope) (fs : List (Name × Nat)) :
    resolveFields sc fs =
      if fs.all (fun f => updatable sc f.1) then .ok (fs.map fun f => (regOf sc f.1, f.2)) else .err := by
  induction fs with
  | nil => rfl
  | cons f rest ih =>
    simp only [resolveFields, resolveField_eq, ih, List.all_cons, List.map_cons]
    cases updatable sc f.1 <;> cases rest.all (fun f => updatable sc f.1) <;> rfl

/-- **All or nothing** (C11): one field that is not updatable makes the whole list an error. -/
theorem resolveFields_spec (sc : Scope) (fs : List (Name × Nat)) :
    (fs.all (fun f => updatable sc f.1) = true →
      resolveFields sc fs = .ok (fs.map fun f => (regOf sc f.1, f.2))) ∧
    (fs.all (fun f => updatable sc f.1) = false → resolveFields sc fs = .err) := by
  rw [resolveFields_eq]
  exact ⟨fun h => by rw [h]; rfl, fun h => by rw [h]; rfl⟩

end Portus.C11

namespace Portus.Rt
open Portus Portus.Lang Portus.Wire Portus.C11

theorem regOf_ne_none {sc : Scope} {n : Name} (h : updatable sc n = true) : regOf sc n ≠ .none := by
  unfold updatable at h
  unfold regOf
  cases hg : sc.get n with
  | none => simp [hg] at h
  | some r => rw [hg] at h; cases r <;> simp at h ⊢

theorem resolveFields_no_panic (sc : Scope) (fs : List (Name × Nat)) : resolveFields sc fs ≠ .panic := by
  rw [resolveFields_eq]
  split <;> simp

theorem resolveFields_regs {sc : Scope} {fs : List (Name × Nat)} {rs : List (Reg × Nat)}
    (h : resolveFields sc fs = .ok rs) : rs.length = fs.length ∧ ∀ r ∈ rs, r.1 ≠ .none := by
  rw [resolveFields_eq] at h
  split at h
  · rename_i ha
    cases h
    exact ⟨by simp, List.forall_mem_map.mpr fun f hf => regOf_ne_none (List.all_eq_true.mp ha f hf)⟩
  · cases h

end Portus.Rt
