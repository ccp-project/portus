import PortusModel.Rt.Handle
import PortusModel.Ipc.Backend
/-!
# The dispatch loop (`src/run.rs` `run_inner`, `sealed::Pick`)

User code (`CongAlg::new_flow`, `Flow::{on_report, close}`) is a universally quantified *policy*:
an interactive program (`UProg`) that may issue handle commands, sees their results, may log, and
returns the flow's new private state. The compiled programs (`scope_map`, `install_msgs`) enter as
configuration data `Cfg.progs`, in the (arbitrary, HashMap-dependent) order in which they are sent.
-/
namespace Portus.Rt
open Portus Portus.Lang Portus.Wire Portus.Ipc

structure Info where
  sid : Nat
  cwnd : Nat
  mss : Nat
  srcIp : Nat
  srcPort : Nat
  dstIp : Nat
  dstPort : Nat
deriving Repr, DecidableEq, Inhabited

/-- what the outside world can see -/
inductive Ev where
  /-- `recv` delivered a datagram of `n` bytes from `src` -/
  | rx (src : Addr) (n : Nat)
  | tx (to : Addr) (bytes : Bytes)
  | txFail (to : Addr)
  | newFlow (flow : Nat) (alg : Nat) (info : Info) (handleSid : Nat)
  | report (flow : Nat) (sidArg : Nat) (uid : Nat) (fields : List Nat)
  | closed (flow : Nat)
  | dropped (flow : Nat)
  | log (flow : Nat) (msg : String)
deriving Repr, DecidableEq, Inhabited

/-- user code as an interactive program over the two handle commands -/
inductive UProg (σ : Type) where
  | done (s : σ)
  | log (msg : String) (k : UProg σ)
  | setProgram (pname : String) (fields : Option (List (Name × Nat))) (k : Option Scope → UProg σ)
  | updateField (sc : Scope) (fields : List (Name × Nat)) (k : Bool → UProg σ)

structure Policy (σ : Type) where
  /-- `CongAlg::new_flow` of algorithm number `alg` (0 = default) -/
  newFlow : (alg : Nat) → (flow : Nat) → Info → UProg σ
  /-- `Flow::on_report(sock_id, report)` -/
  onReport : σ → (sidArg : Nat) → (uid : Nat) → (fields : List Nat) → UProg σ
  /-- `Flow::close()` -/
  onClose : σ → UProg σ

structure AlgInfo where
  name : Bytes
  hasInstance : Bool
deriving Repr, DecidableEq, Inhabited

structure ProgInfo where
  pname : String
  scope : Scope
  install : Bytes
deriving Repr, DecidableEq, Inhabited

structure Cfg where
  /-- default algorithm first, then the additional ones in registration order -/
  algs : List AlgInfo
  progs : List ProgInfo

/-- `CollectDps::datapath_programs`: the union over all algorithms with an instance, collected into a
`HashMap` from the outermost (latest) registration inwards, so on a name collision the algorithm
registered earlier (the default first) wins. `algs` is in registration order, default first; inside one
algorithm's own map names are unique. The result is keyed by name (order irrelevant: it is a map). -/
def unionProgs {α : Type} : List (Bool × List (String × α)) → List (String × α)
  | [] => []
  | (inst, ps) :: rest =>
    let mine := if inst then ps else []
    mine ++ (unionProgs rest).filter fun q => !(mine.any fun p => p.1 == q.1)

def Cfg.scopeMap (c : Cfg) : List (String × Scope) := c.progs.map fun p => (p.pname, p.scope)

/-- `Pick::pick` over registrations numbered 1.. (0 = default): the most recently registered
algorithm that has an instance and whose name equals `name` exactly; otherwise the default -/
def pickFrom : List (Nat × AlgInfo) → Bytes → Nat
  | [], _ => 0
  | (i, a) :: rest, name => if a.hasInstance ∧ a.name = name then i else pickFrom rest name

/-- number the registrations `i, i+1, …` -/
def numberFrom (i : Nat) : List AlgInfo → List (Nat × AlgInfo)
  | [] => []
  | a :: rest => (i, a) :: numberFrom (i + 1) rest

def Cfg.pick (c : Cfg) (name : Bytes) : Nat :=
  pickFrom (numberFrom 1 c.algs.tail).reverse name

structure Flow (σ : Type) where
  no : Nat
  user : σ

structure St (σ : Type) where
  /-- `dp_to_flowmap` -/
  flows : List (Addr × List (Nat × Flow σ))
  nextFlow : Nat
  /-- number of upcoming `Ipc::send` calls that fail -/
  sendFail : Nat

def St.init {σ : Type} : St σ := { flows := [], nextFlow := 1, sendFail := 0 }

/-- `BackendSender::send_msg` through the scripted failure counter -/
def sendTo (to : Addr) (b : Bytes) (sf : Nat) : Bool × Nat × Ev :=
  if sf > 0 then (false, sf - 1, .txFail to) else (true, sf, .tx to b)

/-- interpret user code issued through the handle of flow `(addr, sid)` -/
def runUser {σ : Type} (cfg : Cfg) (addr : Addr) (sid : Nat) (flow : Nat) :
    UProg σ → Nat → List Ev → Out (σ × Nat × List Ev)
  | .done s, sf, acc => .ok (s, sf, acc)
  | .log m k, sf, acc => runUser cfg addr sid flow k sf (acc ++ [.log flow m])
  | .setProgram p f k, sf, acc =>
    match setProgram cfg.scopeMap sid p f with
    | .panic => .panic
    | .err => runUser cfg addr sid flow (k none) sf acc
    | .ok (sc, b) =>
      let (ok, sf', ev) := sendTo addr b sf
      runUser cfg addr sid flow (k (if ok then some sc else none)) sf' (acc ++ [ev])
  | .updateField sc f k, sf, acc =>
    match updateField sc sid f with
    | .panic => .panic
    | .err => runUser cfg addr sid flow (k false) sf acc
    | .ok b =>
      let (ok, sf', ev) := sendTo addr b sf
      runUser cfg addr sid flow (k ok) sf' (acc ++ [ev])

/-- send every install message to `to`; stops at the first failing send (`?`) -/
def sendInstalls (to : Addr) : List ProgInfo → Nat → List Ev → Bool × Nat × List Ev
  | [], sf, acc => (true, sf, acc)
  | p :: rest, sf, acc =>
    let (ok, sf', ev) := sendTo to p.install sf
    if ok then sendInstalls to rest sf' (acc ++ [ev]) else (false, sf', acc ++ [ev])

/-- the drops of a datapath's flows. They live in a `HashMap<u32, Flow>` (`run.rs:511-513`), whose drop order is
unspecified: the model lists them by flow number, as one canonical order. -/
def dropAll {σ : Type} (fm : List (Nat × Flow σ)) : List Ev :=
  (fm.map fun p => p.2.no).mergeSort.map Ev.dropped

inductive StepRes (σ : Type) where
  /-- keep serving -/
  | cont (st : St σ) (evs : List Ev)
  /-- `run_inner` returns `Err` (a failed install send) -/
  | fail (st : St σ) (evs : List Ev)

/-- replace the flow map of `addr` -/
def setAddr {σ : Type} (flows : List (Addr × List (Nat × Flow σ))) (addr : Addr) (fm : List (Nat × Flow σ)) :
    List (Addr × List (Nat × Flow σ)) :=
  (addr, fm) :: flows.filter (fun p => p.1 ≠ addr)

/-- `Msg::Rdy`: forget (drop) the flows of that address, then install every program -/
def stepRdy {σ : Type} (cfg : Cfg) (st : St σ) (addr : Addr) : StepRes σ :=
  let old := (st.flows.lookup addr).getD []
  let r := sendInstalls addr cfg.progs st.sendFail (dropAll old)
  let st' := { st with flows := setAddr st.flows addr [], sendFail := r.2.1 }
  if r.1 then .cont st' r.2.2 else .fail st' r.2.2

/-- `Msg::Cr` -/
def stepCr {σ : Type} (cfg : Cfg) (pol : Policy σ) (st : St σ) (addr : Addr) (c : Create) : Out (StepRes σ) :=
  let known := (st.flows.lookup addr).isSome
  let fm := (st.flows.lookup addr).getD []
  let r := if known then (true, st.sendFail, []) else sendInstalls addr cfg.progs st.sendFail []
  if !r.1 then
    .ok (.fail { st with flows := setAddr st.flows addr fm, sendFail := r.2.1 } r.2.2)
  else
    let evs := r.2.2 ++ dropAll (fm.filter fun p => p.1 = c.sid)
    let fm := fm.filter fun p => p.1 ≠ c.sid
    let alg := cfg.pick (c.alg.getD [])
    let no := st.nextFlow
    let info : Info := ⟨c.sid, c.cwnd, c.mss, c.srcIp, c.srcPort, c.dstIp, c.dstPort⟩
    match runUser cfg addr c.sid no (pol.newFlow alg no info) r.2.1 (evs ++ [.newFlow no alg info c.sid]) with
    | .panic => .panic
    | .err => .err
    | .ok (u, sf, evs) =>
      .ok (.cont { flows := setAddr st.flows addr ((c.sid, { no := no, user := u }) :: fm), nextFlow := no + 1,
                   sendFail := sf } evs)

/-- `Msg::Ms` -/
def stepMs {σ : Type} (cfg : Cfg) (pol : Policy σ) (st : St σ) (addr : Addr) (m : Measure) : Out (StepRes σ) :=
  match st.flows.lookup addr with
  | none => .ok (.cont st [])
  | some fm =>
    match fm.lookup m.sid with
    | none => .ok (.cont st [])
    | some f =>
      if m.numFields = 0 then
        match runUser cfg addr m.sid f.no (pol.onClose f.user) st.sendFail [.closed f.no] with
        | .panic => .panic
        | .err => .err
        | .ok (_, sf, evs) =>
          let fm' := fm.filter fun p => p.1 ≠ m.sid
          .ok (.cont { st with flows := setAddr st.flows addr fm', sendFail := sf } (evs ++ [.dropped f.no]))
      else
        match runUser cfg addr m.sid f.no (pol.onReport f.user m.sid m.uid m.fields) st.sendFail
            [.report f.no m.sid m.uid m.fields] with
        | .panic => .panic
        | .err => .err
        | .ok (u, sf, evs) =>
          let fm' := (m.sid, { f with user := u }) :: fm.filter fun p => p.1 ≠ m.sid
          .ok (.cont { st with flows := setAddr st.flows addr fm', sendFail := sf } evs)

/-- one iteration of the `while let` body for a yielded `(msg, addr)` -/
def step {σ : Type} (cfg : Cfg) (pol : Policy σ) (st : St σ) (addr : Addr) (msg : Msg) : Out (StepRes σ) :=
  match msg with
  | .rdy _ => .ok (stepRdy cfg st addr)
  | .cr c => stepCr cfg pol st addr c
  | .ms m => stepMs cfg pol st addr m
  | .other _ => .ok (.cont st [])

/-- the last `SF k` among the script items `recv` passed over, if any -/
def lastSf : List Rx → Option Nat
  | [] => none
  | .sf k :: rest => (lastSf rest).orElse fun _ => some k
  | _ :: rest => lastSf rest

/-- one `rx` event per datagram `recv` delivered among the passed script items. 1024 is the size of `receive_buf`
(`run.rs:507`); `Ipc.recvInto` cuts at the length of the buffer it is given, which is that for the buffers the
theorems speak about (`buf0.length = 1024`). -/
def rxEvents : List Rx → List Ev
  | [] => []
  | .dgram a d :: rest => .rx a (d.take 1024).length :: rxEvents rest
  | _ :: rest => rxEvents rest

/-- the send-failure counter after `recv` has passed over these script items -/
def applySf {σ : Type} (st : St σ) (passed : List Rx) : St σ :=
  match lastSf passed with
  | some k => { st with sendFail := k }
  | none => st

/-- flows still alive when `run_inner` returns are dropped (before the backend, which then closes) -/
def shutdown {σ : Type} (st : St σ) : List Ev :=
  dropAll (st.flows.flatMap fun p => p.2)

inductive Res where
  | ok | err
deriving Repr, DecidableEq, Inhabited

/-- why `next()` returned `None`: the stop flag was seen false (⇒ `Ok`) or a message failed to
decode while the flag was still set (⇒ `Err("The IPC channel has closed.")`) -/
def endedByStop (b : Backend) (rx : List Rx) : Bool :=
  if b.readUntil < b.totRead then false else (getNextRead b rx).1.isNone

/-- one trip round the loop: `b.next()`, then the `match` -/
inductive LoopRes (σ : Type) where
  | more (b : Backend) (rx : List Rx) (st : St σ) (evs : List Ev)
  | finished (res : Res) (st : St σ) (evs : List Ev)

def loopStep {σ : Type} (cfg : Cfg) (pol : Policy σ) (b : Backend) (rx : List Rx) (st : St σ) : Out (LoopRes σ) :=
  match next b rx with
  | .panic => .panic
  | .err => .err
  | .ok (none, _, rx') =>
    .ok (.finished (if endedByStop b rx then .ok else .err) st (rxEvents (rx.take (rx.length - rx'.length))))
  | .ok (some (msg, addr), b', rx') =>
    match step cfg pol (applySf st (rx.take (rx.length - rx'.length))) addr msg with
    | .panic => .panic
    | .err => .err
    | .ok (.cont st' evs) => .ok (.more b' rx' st' (rxEvents (rx.take (rx.length - rx'.length)) ++ evs))
    | .ok (.fail st' evs) => .ok (.finished .err st' (rxEvents (rx.take (rx.length - rx'.length)) ++ evs))

/-- `run_inner` after the programs have been compiled: the trace and the result -/
def runLoop {σ : Type} (cfg : Cfg) (pol : Policy σ) : Nat → Backend → List Rx → St σ → List Ev → Out (List Ev × Res)
  | 0, _, _, st, acc => .ok (acc ++ shutdown st, .ok)
  | fuel + 1, b, rx, st, acc =>
    match loopStep cfg pol b rx st with
    | .panic => .panic
    | .err => .err
    | .ok (.finished r st' evs) => .ok (acc ++ evs ++ shutdown st', r)
    | .ok (.more b' rx' st' evs) => runLoop cfg pol fuel b' rx' st' (acc ++ evs)

def run {σ : Type} (cfg : Cfg) (pol : Policy σ) (buf0 : Bytes) (rx : List Rx) : Out (List Ev × Res) :=
  runLoop cfg pol (rxFuel rx + 1) (Backend.new buf0) rx St.init []

end Portus.Rt
