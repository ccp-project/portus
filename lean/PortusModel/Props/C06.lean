import PortusModel.Lemmas.Ctl
/-!
# C06 — control-plane messages are byte-exact for libccp and honest about length

`Libccp.readMsg` is the independent reader (libccp's packed structs, `ccp_read_msg`). "Built by the library"
(`builtCP`, `builtUF`, `builtIN`) means the count fields were set from the record lists, as `set_program`,
`update_field` and `run_inner` do.
-/
namespace Portus.C06
open Portus Portus.Wire Portus.Lang

/-! decidable forms of the matching relations, for the oracle `check` -/

def updsMatchB : List (Reg × Nat) → List Libccp.Upd → Bool
  | [], [] => true
  | (r, v) :: ps, u :: us => r.classIdx == .ok (u.cls, u.idx) && u.val == v && updsMatchB ps us
  | _, _ => false

def instrsMatchB : List Instr → List Libccp.InstrMsg → Bool
  | [], [] => true
  | i :: is, m :: ms =>
    serializeOp i.op == .ok m.opcode && i.res.classIdx == .ok (m.resT, m.resI) &&
    i.left.classIdx == .ok (m.leftT, m.leftI) && i.right.classIdx == .ok (m.rightT, m.rightI) &&
    instrsMatchB is ms
  | _, _ => false

theorem updsMatchB_iff (ps : List (Reg × Nat)) (us : List Libccp.Upd) :
    updsMatchB ps us = true ↔ updsMatch ps us := by
  induction ps generalizing us with
  | nil => cases us <;> simp [updsMatchB, updsMatch]
  | cons p ps ih =>
    obtain ⟨r, v⟩ := p
    cases us with
    | nil => simp [updsMatchB, updsMatch]
    | cons u us => simp [updsMatchB, updsMatch, ih, and_assoc]

theorem instrsMatchB_iff (is : List Instr) (ms : List Libccp.InstrMsg) :
    instrsMatchB is ms = true ↔ instrsMatch is ms := by
  induction is generalizing ms with
  | nil => cases ms <;> simp [instrsMatchB, instrsMatch]
  | cons i is ih =>
    cases ms with
    | nil => simp [instrsMatchB, instrsMatch]
    | cons m ms => simp [instrsMatchB, instrsMatch, instrMatch, ih, and_assoc]

def builtCP (m : ChangeProg) : Prop :=
  m.numFields = m.fields.length ∧ m.sid < 2^32 ∧ m.uid < 2^32 ∧ ∀ p ∈ m.fields, p.2 < 2^64

/-- **libccp reads a change-program message exactly.** With at most libccp's 222 updates, its reader returns
the flow id, the program uid and one (class, index, value) record per update, in order, equal to what the
message was built from; and the header length is the true length. -/
theorem changeprog_read_by_libccp (m : ChangeProg) (b : Bytes) (hb : builtCP m)
    (h : serializeChangeProg m = .ok b) (hl : m.fields.length ≤ 222) :
    b.length = 16 + 13 * m.fields.length ∧ rd16 (b.drop 2) = b.length ∧
    rd32 (b.drop 12) = m.fields.length ∧
    ∃ us, Libccp.readMsg b = some (.changeProg m.sid m.uid us) ∧ updsMatch m.fields us := by
  obtain ⟨hn, hs, hu, hv⟩ := hb
  have hlen := serializeChangeProg_length h hv
  obtain ⟨hfit, ub, hub, rfl⟩ := serializeChangeProg_eq_ok.mp h
  have um := (readUpds_serializeUpdates m.fields ub hv hub).2
  have m1 : m.fields.length % 4294967296 = m.fields.length := by omega
  have m2 : m.uid % 4294967296 = m.uid := by omega
  rw [hlen]
  rw [List.length_append, serializeHeader_length] at hlen
  rw [Libccp.readMsg_frame _ _ _ _ (by decide) hs (by omega) (by omega)]
  simp only [wire, CHANGEPROG, hn, m1, m2]
  rw [if_neg (by omega)]
  exact ⟨trivial, by omega, trivial, _, rfl, um⟩

def builtUF (m : UpdateField) : Prop :=
  m.numFields = m.fields.length ∧ m.sid < 2^32 ∧ ∀ p ∈ m.fields, p.2 < 2^64

/-- **libccp reads an update-fields message exactly**, for up to 127 updates (libccp reads the
count as one signed byte, so it refuses more: `C06.updatefield_over_127_refused` in `Props/C06Acts.lean`). -/
theorem updatefield_read_by_libccp (m : UpdateField) (b : Bytes) (hb : builtUF m)
    (h : serializeUpdateField m = .ok b) (hl : m.fields.length ≤ 127) :
    b.length = 12 + 13 * m.fields.length ∧ rd16 (b.drop 2) = b.length ∧
    rd32 (b.drop 8) = m.fields.length ∧
    ∃ us, Libccp.readMsg b = some (.updateFields m.sid us) ∧ updsMatch m.fields us := by
  obtain ⟨hn, hs, hv⟩ := hb
  have hlen := serializeUpdateField_length h hv
  obtain ⟨hfit, ub, hub, rfl⟩ := serializeUpdateField_eq_ok.mp h
  have um := (readUpds_serializeUpdates m.fields ub hv hub).2
  have m1 : m.fields.length % 4294967296 = m.fields.length := by omega
  have m2 : m.fields.length % 256 = m.fields.length := by omega
  have hsb : Libccp.signedByteAsU32 m.fields.length = m.fields.length := if_pos (by omega)
  rw [hlen]
  rw [List.length_append, serializeHeader_length] at hlen
  rw [Libccp.readMsg_frame _ _ _ _ (by decide) hs (by omega) (by omega)]
  simp only [wire, UPDATE_FIELD, hn, m1, m2, hsb]
  rw [if_neg (by omega)]
  exact ⟨trivial, by omega, trivial, _, rfl, um⟩

def builtIN (m : Install) : Prop :=
  m.numEvents = m.bin.events.length ∧ m.numInstrs = m.bin.instrs.length ∧ m.sid < 2^32 ∧ m.uid < 2^32 ∧
  ∀ e ∈ m.bin.events, evInRange e

/-- **libccp reads an install message exactly**: program uid, one expression record per event and
one instruction record per instruction, in order, each field equal to what it was built from
(messages within libccp's 32,678-byte limit). -/
theorem install_read_by_libccp (m : Install) (b : Bytes) (hb : builtIN m)
    (h : serializeInstall m = .ok b) (hl : b.length ≤ 32678) :
    b.length = 20 + 16 * (m.bin.events.length + m.bin.instrs.length) ∧ rd16 (b.drop 2) = b.length ∧
    rd32 (b.drop 12) = m.bin.events.length ∧ rd32 (b.drop 16) = m.bin.instrs.length ∧
    ∃ ms, Libccp.readMsg b = some (.install m.sid m.uid (m.bin.events.map evToLibccp) ms) ∧
      instrsMatch m.bin.instrs ms := by
  obtain ⟨hne, hni, hs, hu, hev⟩ := hb
  have hlen := serializeInstall_length h
  obtain ⟨hfit, ib, hib, rfl⟩ := serializeInstall_eq_ok.mp h
  have im := (readInstrs_serialize m.bin.instrs ib [] hib).2
  have el := events_bytes_length m.bin.events
  have m1 : m.bin.events.length % 4294967296 = m.bin.events.length := by omega
  have m2 : m.bin.instrs.length % 4294967296 = m.bin.instrs.length := by omega
  have m3 : m.uid % 4294967296 = m.uid := by omega
  rw [hlen] at hl ⊢
  rw [List.length_append, serializeHeader_length] at hlen
  rw [Libccp.readMsg_frame _ _ _ _ (by decide) hs (by omega) (by omega)]
  simp only [wire, INSTALL, hne, hni, m1, m2, m3, readExprs_serialize _ _ hev]
  -- the instruction records start behind the three counts and the event records
  rw [show 12 + 16 * m.bin.events.length = 16 * m.bin.events.length + 4 + 4 + 4 by omega]
  simp only [wire, List.drop_left' el]
  exact ⟨trivial, by omega, trivial, trivial, _, rfl, by simpa using im⟩

/-- Whenever an encoder succeeds on a message the library built, the 16-bit header length is the
true byte length (so it is at most 65535). -/
theorem header_len_honest_cp (m : ChangeProg) (b : Bytes) (hb : builtCP m)
    (h : serializeChangeProg m = .ok b) : rd16 (b.drop 2) = b.length ∧ b.length ≤ 65535 := by
  have hn := hb.1
  have hlen := serializeChangeProg_length h hb.2.2.2
  obtain ⟨hfit, ub, hub, rfl⟩ := serializeChangeProg_eq_ok.mp h
  rw [hdr_len, hlen]
  omega

theorem header_len_honest_in (m : Install) (b : Bytes) (hb : builtIN m)
    (h : serializeInstall m = .ok b) : rd16 (b.drop 2) = b.length ∧ b.length ≤ 65535 := by
  have hne := hb.1
  have hni := hb.2.1
  have hlen := serializeInstall_length h
  obtain ⟨hfit, ib, hib, rfl⟩ := serializeInstall_eq_ok.mp h
  rw [hdr_len, hlen]
  omega

/-- A message whose true length exceeds the 16-bit length field is refused, never truncated. -/
theorem unrepresentable_fails_cp (m : ChangeProg) (h : 16 + 13 * m.numFields > 65535)
    (h32 : 16 + 13 * m.numFields < 2^32) :
    serializeChangeProg m = .err := by
  unfold serializeChangeProg u32LenP serializeWith
  rw [if_neg (by omega), if_pos (by omega)]

theorem unrepresentable_fails_uf (m : UpdateField) (h : 12 + 13 * m.numFields > 65535) :
    serializeUpdateField m = .err := by
  unfold serializeUpdateField serializeWith
  rw [if_pos (by omega)]

theorem unrepresentable_fails_in (m : Install) (h : 20 + 16 * (m.numEvents + m.numInstrs) > 65535)
    (h32 : 20 + 16 * (m.numEvents + m.numInstrs) < 2^32) :
    serializeInstall m = .err := by
  unfold serializeInstall u32LenP serializeWith
  rw [if_neg (by omega), if_pos (by omega)]

inductive Spec where
  | cp (m : ChangeProg) | uf (m : UpdateField) | ins (m : Install)

def Spec.lenFits : Spec → Bool
  | .cp m => decide (16 + 13 * m.numFields ≤ 65535)
  | .uf m => decide (12 + 13 * m.numFields ≤ 65535)
  | .ins m => decide (20 + 16 * (m.numEvents + m.numInstrs) ≤ 65535)

def Spec.built : Spec → Bool
  | .cp m => decide (m.numFields = m.fields.length) && decide (16 + 13 * m.numFields < 2^32)
  | .uf m => decide (m.numFields = m.fields.length)
  | .ins m => decide (m.numEvents = m.bin.events.length) && decide (m.numInstrs = m.bin.instrs.length) &&
      decide (20 + 16 * (m.numEvents + m.numInstrs) < 2^32)

/-- `C06.check spec observed`: for a message built by the library, the observed encoding result is
either a refusal, or bytes whose header length is their true length and which libccp's reader (when
within libccp's own limits) parses to exactly the records the message was built from; if the
length does not fit the header the result must be a refusal. A panic is never admissible. -/
def check (s : Spec) (obs : Out Bytes) : Bool :=
  !s.built ||
  match obs with
  | .panic => false
  | .err => true
  | .ok b =>
    s.lenFits && rd16 (b.drop 2) == b.length &&
    match s with
    | .cp m =>
      rd32 (b.drop 12) == m.fields.length &&
      (decide (m.fields.length > 222) ||
        match Libccp.readMsg b with
        | some (.changeProg sid uid us) => sid == m.sid && uid == m.uid && updsMatchB m.fields us
        | _ => false)
    | .uf m =>
      rd32 (b.drop 8) == m.fields.length &&
      (decide (m.fields.length > 127) ||
        match Libccp.readMsg b with
        | some (.updateFields sid us) => sid == m.sid && updsMatchB m.fields us
        | _ => false)
    | .ins m =>
      rd32 (b.drop 12) == m.bin.events.length && rd32 (b.drop 16) == m.bin.instrs.length &&
      (decide (b.length > 32678) ||
        match Libccp.readMsg b with
        | some (.install sid uid es ms) =>
          sid == m.sid && uid == m.uid && es == m.bin.events.map evToLibccp && instrsMatchB m.bin.instrs ms
        | _ => false)

example : serializeChangeProg ⟨7, 3, 2, [(.control 0 .none false, 5), (.implicit 4 .none, 10)]⟩ =
    .ok [4,0,42,0, 7,0,0,0, 3,0,0,0, 2,0,0,0, 0,0,0,0,0, 5,0,0,0,0,0,0,0, 2,4,0,0,0, 10,0,0,0,0,0,0,0] := by
  decide
example : Libccp.readMsg [4,0,42,0, 7,0,0,0, 3,0,0,0, 2,0,0,0, 0,0,0,0,0, 5,0,0,0,0,0,0,0, 2,4,0,0,0, 10,0,0,0,0,0,0,0]
    = some (.changeProg 7 3 [⟨0, 0, 5⟩, ⟨2, 4, 10⟩]) := by decide

end Portus.C06
